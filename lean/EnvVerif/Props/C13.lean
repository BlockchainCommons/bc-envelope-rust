/-
  Props/C13.lean — compression (`src/extension/compress.rs`).

  "For any envelope, compressing it - whole or subject only - and uncompressing again returns
  an envelope identical to the original, with the same digest at every step whatever the
  subject is (leaf, known value, wrapped, assertion, node, already compressed); compressing
  twice is idempotent. A compressed element whose content does not hash to its declared
  digest, or whose data is corrupt, is rejected on uncompress."

  Hypotheses (never axioms).
  * `L : DeflateLaws Z` (Lemmas/Laws.lean): `inflate (deflate b) = some b`; satisfied by
    `ToyDeps.toyDeflate` and by `ToyDeps.toyDeflate2` (which does shorten every envelope
    encoding, so the deflated form of `Compressed` is exercised).
  * `RoundTrips h x` (`decode h (encode x) = .ok x`) for the one envelope `x` that is compressed
    (the envelope, or its subject): the conclusion of C05 `decode_encode`.
  * `Inv h e` where the node structure matters (`compress_subject`, `uncompress_subject`).

  `compress` of an already compressed envelope returns it unchanged, so for such an
  original the round trip returns its uncompressed content: same digest
  (`uncompress_digest`), which is all the code can mean; the identity statements therefore
  ask that the thing compressed is not compressed already.
-/
import EnvVerif.Lemmas.ObscureLemmas
namespace EnvVerif
open Env ToyDeps Obs.Ex

section
variable (h : Hash) (Z : Deflate)

theorem compress_succeeds_iff (e : Env) :
    (∃ z, compress Z e = .ok z) ↔ (e.isEncrypted = false ∧ e.isElided = false) :=
  (compress_ok_iff Z e).trans and_comm

theorem compress_err_iff (e : Env) (x : String) :
    compress Z e = .err x ↔
      (x = "AlreadyEncrypted" ∧ e.isEncrypted = true) ∨ (x = "AlreadyElided" ∧ e.isElided = true) := by
  cases e <;> simp [compress, Env.isEncrypted, Env.isElided, eq_comm]

theorem compress_never_panics (e : Env) (s : String) : compress Z e ≠ .panic s :=
  compress_not_panic Z e s

theorem compress_of_compressed (c : CompMsg) (d : Digest) :
    compress Z (.compressed c d) = .ok (.compressed c d) := rfl

/-- what `compress` returns otherwise: the compressed encoding, declared with the digest -/
theorem compress_shape (e z : Env) (hc : e.isCompressed = false) (hz : compress Z e = .ok z) :
    z = .compressed (compressedOf Z (encode e)) e.digest := by
  have ⟨hl, he⟩ := (compress_ok_iff Z e).1 ⟨z, hz⟩
  rw [Obs.compress_of_plain Z hc he hl] at hz
  exact (Res.ok.inj hz).symm

example : compress toyDeflate2 nd = .ok (.compressed (compressedOf toyDeflate2 (encode nd)) nd.digest) ∧
    (compressedOf toyDeflate2 (encode nd)).data.length < (encode nd).length :=
  ⟨congrArg Res.ok (compress_shape toyDeflate2 nd _ rfl rfl), by decide⟩

/-- C13: compression keeps the digest -/
theorem compress_keeps_digest (e z : Env) (hz : compress Z e = .ok z) : z.digest = e.digest :=
  compress_ok_digest Z hz

theorem compress_isCompressed (e z : Env) (hz : compress Z e = .ok z) : z.isCompressed = true := by
  obtain ⟨c, rfl⟩ := compress_ok Z hz
  rfl

/-- C13: `compress (compress e) = compress e` -/
theorem compress_idempotent (e z : Env) (hz : compress Z e = .ok z) : compress Z z = .ok z := by
  obtain ⟨c, rfl⟩ := compress_ok Z hz
  rfl

theorem compress_inv (e z : Env) (hi : Inv h e) (hH : ∀ b, (h.H b).Valid)
    (hz : compress Z e = .ok z) : Inv h z := by
  obtain ⟨c, rfl⟩ := compress_ok Z hz
  exact ⟨trivial, hi.digest_valid hH⟩

example : ∃ z, compress toyDeflate nd = .ok z ∧ Inv toyHash z ∧ z.digest = nd.digest ∧
    z.isCompressed = true ∧ compress toyDeflate z = .ok z :=
  ⟨_, rfl, compress_inv toyHash toyDeflate nd _ nd_inv toyHash_valid rfl,
    compress_keeps_digest toyDeflate nd _ rfl, compress_isCompressed toyDeflate nd _ rfl,
    compress_idempotent toyDeflate nd _ rfl⟩

/-- C13: uncompressing what `compress` made of an envelope that was not yet compressed
returns the identical envelope -/
theorem uncompress_compress (L : DeflateLaws Z) (e z : Env) (hrt : RoundTrips h e)
    (hc : e.isCompressed = false) (hz : compress Z e = .ok z) : uncompress h Z z = .ok e := by
  rw [compress_shape Z e z hc hz]
  exact Obs.uncompress_compressedOf h L hrt

/- all hypotheses hold together — with the toy that stores, and with the toy that deflates -/
example : ∃ z, compress toyDeflate nd = .ok z ∧ uncompress toyHash toyDeflate z = .ok nd :=
  ⟨_, rfl, uncompress_compress toyHash toyDeflate toyDeflate_laws nd _ nd_rt rfl rfl⟩

example : ∃ z, compress toyDeflate2 nd = .ok z ∧ uncompress toyHash toyDeflate2 z = .ok nd :=
  ⟨_, rfl, uncompress_compress toyHash toyDeflate2 toyDeflate2_laws nd _ nd_rt rfl rfl⟩

theorem uncompress_digest (e z : Env) (hz : uncompress h Z e = .ok z) : z.digest = e.digest := by
  obtain ⟨c, d, data, rfl, _, _, hd⟩ := Obs.uncompress_ok h Z hz
  exact hd

example : ∃ z x, uncompress toyHash toyDeflate z = .ok x ∧ x.digest = z.digest := by
  have hu := uncompress_compress toyHash toyDeflate toyDeflate_laws nd _ nd_rt rfl rfl
  exact ⟨_, _, hu, uncompress_digest _ _ _ _ hu⟩

/-- C13: across `compress` then `uncompress` the digest is kept, whatever the original was
(also an already compressed one) -/
theorem uncompress_compress_digest (e z x : Env) (hz : compress Z e = .ok z)
    (hx : uncompress h Z z = .ok x) : x.digest = e.digest :=
  (uncompress_digest h Z z x hx).trans (compress_keeps_digest Z e z hz)

example : ∃ z x, compress toyDeflate nd = .ok z ∧ uncompress toyHash toyDeflate z = .ok x ∧
    x.digest = nd.digest :=
  ⟨_, _, rfl, uncompress_compress toyHash toyDeflate toyDeflate_laws nd _ nd_rt rfl rfl, rfl⟩

theorem uncompress_ok_iff (c : CompMsg) (d : Digest) (x : Env) :
    uncompress h Z (.compressed c d) = .ok x ↔
      ∃ data, uncompressMsg Z c = some data ∧ decode h data = .ok x ∧ x.digest = d := by
  constructor
  · intro hz
    obtain ⟨c', d', data, heq, hm, hd, hx⟩ := Obs.uncompress_ok h Z hz
    cases heq
    exact ⟨data, hm, hd, hx⟩
  · rintro ⟨data, hm, hd, hx⟩
    rw [Obs.uncompress_compressed, hm]
    simp only [hd, hx, Res.ok_bind, bne_self_eq_false, Bool.false_eq_true, if_false]

/-- C13: content whose digest is not the declared one is refused -/
theorem uncompress_bad_digest (c : CompMsg) (d : Digest) (data : Bytes) (x : Env)
    (hm : uncompressMsg Z c = some data) (hd : decode h data = .ok x) (hne : x.digest ≠ d) :
    uncompress h Z (.compressed c d) = .err "InvalidDigest" := by
  have hb : (x.digest != d) = true := by simpa using hne
  rw [Obs.uncompress_compressed, hm]
  simp only [hd, Res.ok_bind, hb, if_true]

/- the encoding of the leaf `"a"` declared with the digest 7
(`Compressed::from_uncompressed_data(data, Some(other))` lets one do that): refused -/
example : uncompress toyHash toyDeflate (.compressed (compressedOf toyDeflate (encode lf)) ⟨7⟩) =
    .err "InvalidDigest" :=
  uncompress_bad_digest toyHash toyDeflate _ ⟨7⟩ (encode lf) lf
    (Obs.uncompressMsg_compressedOf toyDeflate_laws _) lf_rt (by decide)

/-- C13: data that does not uncompress is refused -/
theorem uncompress_corrupt (c : CompMsg) (d : Digest) (hm : uncompressMsg Z c = none) :
    uncompress h Z (.compressed c d) = .err "dep:uncompress-failed" := by
  rw [Obs.uncompress_compressed, hm]

/- three bytes declared as the deflated form of ten, which the toy does not inflate -/
example : uncompress toyHash toyDeflate2 (.compressed ⟨0, 10, [9, 9, 9]⟩ ⟨7⟩) =
    .err "dep:uncompress-failed" :=
  uncompress_corrupt toyHash toyDeflate2 _ _ (by decide)

/-- deflated data that does not inflate, or inflates to something with another checksum -/
theorem uncompress_corrupt_deflated (c : CompMsg) (d : Digest) (hl : c.data.length < c.size)
    (hbad : Z.inflate c.data = none ∨ ∃ u, Z.inflate c.data = some u ∧ Z.crc u ≠ c.checksum) :
    uncompress h Z (.compressed c d) = .err "dep:uncompress-failed" := by
  apply uncompress_corrupt
  unfold uncompressMsg
  rw [if_neg (by omega)]
  rcases hbad with hn | ⟨u, hu, hcrc⟩
  · simp only [hn]
  · have hb : (Z.crc u == c.checksum) = false := by simpa using hcrc
    simp only [hu, hb, Bool.false_eq_true, if_false]

/- inflates, but to something with another checksum -/
example : uncompress toyHash toyDeflate2 (.compressed ⟨0, 10, [2, 9, 9]⟩ ⟨7⟩) =
    .err "dep:uncompress-failed" :=
  uncompress_corrupt_deflated toyHash toyDeflate2 _ _ (by decide)
    (Or.inr ⟨[9, 9], rfl, by decide⟩)

/-- data that decodes to no envelope is refused with the decoder's error -/
theorem uncompress_undecodable (c : CompMsg) (d : Digest) (data : Bytes) (msg : String)
    (hm : uncompressMsg Z c = some data) (hd : decode h data = .err msg) :
    uncompress h Z (.compressed c d) = .err msg := by
  rw [Obs.uncompress_compressed, hm]
  simp only [hd, Res.err_bind]

example : uncompress toyHash toyDeflate (.compressed ⟨0, 1, [0xff]⟩ ⟨7⟩) = .err "cbor:bad-header" :=
  uncompress_undecodable toyHash toyDeflate _ _ [0xff] _ rfl rfl

theorem uncompress_not_compressed (e : Env) (hc : e.isCompressed = false) :
    uncompress h Z e = .err "NotCompressed" := by
  cases e with
  | compressed c d => cases hc
  | _ => rfl

example : uncompress toyHash toyDeflate nd = .err "NotCompressed" :=
  uncompress_not_compressed _ _ _ rfl

theorem uncompress_no_panic (e : Env) (s : String) : uncompress h Z e ≠ .panic s :=
  Obs.uncompress_ne_panic h Z e s

theorem compressSubject_of_compressed (e : Env) (hc : e.subject.isCompressed = true) :
    compressSubject h Z e = .ok e := by
  unfold compressSubject
  rw [if_pos hc]

example (c : CompMsg) (d : Digest) :
    compressSubject toyHash toyDeflate (.compressed c d) = .ok (.compressed c d) :=
  compressSubject_of_compressed _ _ _ rfl

theorem compressSubject_ok_iff (e : Env) (hi : Inv h e) :
    (∃ z, compressSubject h Z e = .ok z) ↔
      (e.subject.isEncrypted = false ∧ e.subject.isElided = false) := by
  rw [← compress_succeeds_iff Z e.subject]
  simp only [compressSubject_eq_ok h Z hi]
  exact ⟨fun ⟨_, c, hc, _⟩ => ⟨c, hc⟩, fun ⟨c, hc⟩ => ⟨_, c, hc, rfl⟩⟩

example : ∃ z, compressSubject toyHash toyDeflate nd = .ok z :=
  (compressSubject_ok_iff toyHash toyDeflate nd nd_inv).mpr ⟨rfl, rfl⟩

theorem compressSubject_err_iff (e : Env) (x : String) (hi : Inv h e) :
    compressSubject h Z e = .err x ↔
      (x = "AlreadyEncrypted" ∧ e.subject.isEncrypted = true) ∨
      (x = "AlreadyElided" ∧ e.subject.isElided = true) := by
  rw [compressSubject_eq h Z hi, ← compress_err_iff]
  cases compress Z e.subject <;> simp [Res.bind]

example : compressSubject toyHash toyDeflate (.elided ⟨5⟩) = .err "AlreadyElided" :=
  (compressSubject_err_iff toyHash toyDeflate (.elided ⟨5⟩) _
    (Inv.newElided _ (by simp [Digest.Valid]))).mpr (Or.inr ⟨rfl, rfl⟩)

/-- no panic: the `unwrap` inside `replace_subject` never fires on an envelope satisfying `Inv` -/
theorem compressSubject_no_panic (e : Env) (hi : Inv h e) (s : String) :
    compressSubject h Z e ≠ .panic s := by
  rw [compressSubject_eq h Z hi]
  exact Res.bind_ne_panic (compress_not_panic Z _) (fun _ _ => Res.ok_ne_panic _) s

example (s : String) : compressSubject toyHash toyDeflate nd2 ≠ .panic s :=
  compressSubject_no_panic toyHash toyDeflate nd2 nd2_inv s

theorem compressSubject_shape (e z : Env) (hi : Inv h e) (hc : e.subject.isCompressed = false)
    (hz : compressSubject h Z e = .ok z) :
    z.subject = .compressed (compressedOf Z (encode e.subject)) e.subject.digest ∧
      z.assertions = e.assertions ∧ z.isNode = e.isNode ∧ z.digest = e.digest := by
  obtain ⟨c, hcz, rfl⟩ := (compressSubject_eq_ok h Z hi).1 hz
  obtain rfl := compress_shape Z _ c hc hcz
  have hs := setSubject_shape e (s := .compressed (compressedOf Z (encode e.subject)) e.subject.digest) rfl
  exact ⟨hs.1, hs.2.1, hs.2.2, setSubject_digest rfl⟩

/-- C13: compressing the subject keeps the digest -/
theorem compressSubject_keeps_digest (e z : Env) (hi : Inv h e) (hz : compressSubject h Z e = .ok z) :
    z.digest = e.digest := by
  obtain ⟨c, hcz, rfl⟩ := (compressSubject_eq_ok h Z hi).1 hz
  exact setSubject_digest (compress_ok_digest Z hcz)

theorem compressSubject_inv (e z : Env) (hi : Inv h e) (hH : ∀ b, (h.H b).Valid)
    (hz : compressSubject h Z e = .ok z) : Inv h z := by
  obtain ⟨c, hcz, rfl⟩ := (compressSubject_eq_ok h Z hi).1 hz
  exact setSubject_inv h hi (compress_inv h Z _ c hi.subject hH hcz) (compress_ok_digest Z hcz)

example : ∃ z, compressSubject toyHash toyDeflate nd2 = .ok z ∧ z.assertions = nd2.assertions ∧
    z.digest = nd2.digest ∧ z.subject.isCompressed = true ∧ Inv toyHash z := by
  obtain ⟨z, hz⟩ := (compressSubject_ok_iff toyHash toyDeflate nd2 nd2_inv).mpr ⟨rfl, rfl⟩
  have hs := compressSubject_shape toyHash toyDeflate nd2 z nd2_inv rfl hz
  exact ⟨z, hz, hs.2.1, compressSubject_keeps_digest _ _ _ _ nd2_inv hz, by rw [hs.1]; rfl,
    compressSubject_inv _ _ _ _ nd2_inv toyHash_valid hz⟩

theorem uncompressSubject_not_compressed (e : Env) (hc : e.subject.isCompressed = false) :
    uncompressSubject h Z e = .ok e := by
  rw [uncompressSubject_eq, hc]; rfl

example : uncompressSubject toyHash toyDeflate nd = .ok nd :=
  uncompressSubject_not_compressed _ _ _ rfl

/-- `uncompress_subject` (finding F6): a node keeps its assertion list and gets the
uncompressed envelope as its subject — also when that envelope is itself a node; nothing
is merged -/
theorem uncompressSubject_node (cs s : Env) (as : List Env) (d : Digest)
    (hi : Inv h (.node cs as d)) (hs : uncompress h Z cs = .ok s) :
    uncompressSubject h Z (.node cs as d) = .ok (.node s as d) := by
  have hc : (Env.node cs as d).subject.isCompressed = true := by
    cases cs <;> first | rfl | cases hs
  rw [uncompressSubject_eq, hc, if_pos rfl]
  show (uncompress h Z cs).bind _ = _
  rw [hs, Res.ok_bind]
  exact withSubject_of_inv h hi (uncompress_digest h Z cs s hs)

/- a node whose compressed subject uncompresses to a node (the F6 shape) -/
example : uncompressSubject toyHash toyDeflate
    (.node (.compressed (compressedOf toyDeflate (encode nd)) nd.digest) [asr2]
      (toyHash.ofDigests [nd.digest, asr2.digest])) = .ok nd2 :=
  uncompressSubject_node toyHash toyDeflate _ nd [asr2] _
    (setSubject_inv toyHash nd2_inv (s := .compressed _ nd.digest) ⟨trivial, toyHash_valid _⟩ rfl)
    (Obs.uncompress_compressedOf toyHash toyDeflate_laws nd_rt)

/-- C13: uncompressing the subject after compressing it returns the identical envelope —
for every subject case (leaf, known value, wrapped, assertion, and, for an envelope with
assertions, a subject that is itself a node) -/
theorem uncompressSubject_compressSubject (L : DeflateLaws Z) (e z : Env) (hi : Inv h e)
    (hrt : RoundTrips h e.subject) (hc : e.subject.isCompressed = false)
    (hz : compressSubject h Z e = .ok z) : uncompressSubject h Z z = .ok e := by
  obtain ⟨c, hcz, rfl⟩ := (compressSubject_eq_ok h Z hi).1 hz
  obtain rfl := compress_shape Z _ c hc hcz
  rw [uncompressSubject_eq, (setSubject_shape e rfl).1, Env.isCompressed, if_pos rfl,
    Obs.uncompress_compressedOf h L hrt, Res.ok_bind, withSubject_setSubject h e rfl,
    withSubject_of_inv h hi rfl, e.setSubject_self]

/- all hypotheses hold together: a leaf subject, ... -/
example : ∃ z, compressSubject toyHash toyDeflate nd = .ok z ∧
    uncompressSubject toyHash toyDeflate z = .ok nd := by
  obtain ⟨z, hz⟩ := (compressSubject_ok_iff toyHash toyDeflate nd nd_inv).mpr ⟨rfl, rfl⟩
  exact ⟨z, hz, uncompressSubject_compressSubject _ _ toyDeflate_laws _ _ nd_inv lf_rt rfl hz⟩

/- ... a subject that is itself a node (with the deflating toy), ... -/
example : ∃ z, compressSubject toyHash toyDeflate2 nd2 = .ok z ∧
    uncompressSubject toyHash toyDeflate2 z = .ok nd2 := by
  obtain ⟨z, hz⟩ := (compressSubject_ok_iff toyHash toyDeflate2 nd2 nd2_inv).mpr ⟨rfl, rfl⟩
  exact ⟨z, hz, uncompressSubject_compressSubject _ _ toyDeflate2_laws _ _ nd2_inv nd_rt rfl hz⟩

/- ... an envelope without assertions -/
example : ∃ z, compressSubject toyHash toyDeflate lf = .ok z ∧
    uncompressSubject toyHash toyDeflate z = .ok lf := by
  obtain ⟨z, hz⟩ := (compressSubject_ok_iff toyHash toyDeflate lf lf_inv).mpr ⟨rfl, rfl⟩
  exact ⟨z, hz, uncompressSubject_compressSubject _ _ toyDeflate_laws _ _ lf_inv lf_rt rfl hz⟩

/-- C13: uncompressing the subject keeps the digest -/
theorem uncompressSubject_digest (e z : Env) (hi : Inv h e)
    (hz : uncompressSubject h Z e = .ok z) : z.digest = e.digest := by
  rw [uncompressSubject_eq] at hz
  split at hz
  · obtain ⟨s, hs, hz⟩ := Res.bind_eq_ok.1 hz
    have hd := uncompress_digest h Z _ s hs
    rw [withSubject_of_inv h hi hd] at hz
    cases hz
    exact setSubject_digest hd
  · cases hz; rfl

example : ∃ z x, Inv toyHash z ∧ uncompressSubject toyHash toyDeflate z = .ok x ∧ x.digest = z.digest := by
  obtain ⟨z, hz⟩ := (compressSubject_ok_iff toyHash toyDeflate nd nd_inv).mpr ⟨rfl, rfl⟩
  have hi := compressSubject_inv _ _ _ _ nd_inv toyHash_valid hz
  have hu := uncompressSubject_compressSubject _ _ toyDeflate_laws _ _ nd_inv lf_rt rfl hz
  exact ⟨z, nd, hi, hu, uncompressSubject_digest _ _ _ _ hi hu⟩

/-- C13: across `compress_subject` then `uncompress_subject` the digest is kept, whatever the
subject was (also an already compressed one) -/
theorem uncompressSubject_compressSubject_digest (e z x : Env) (hi : Inv h e)
    (hH : ∀ b, (h.H b).Valid) (hz : compressSubject h Z e = .ok z)
    (hx : uncompressSubject h Z z = .ok x) : x.digest = e.digest :=
  (uncompressSubject_digest h Z z x (compressSubject_inv h Z e z hi hH hz) hx).trans
    (compressSubject_keeps_digest h Z e z hi hz)

example : ∃ z x, compressSubject toyHash toyDeflate nd = .ok z ∧
    uncompressSubject toyHash toyDeflate z = .ok x ∧ x.digest = nd.digest := by
  obtain ⟨z, hz⟩ := (compressSubject_ok_iff toyHash toyDeflate nd nd_inv).mpr ⟨rfl, rfl⟩
  have hu := uncompressSubject_compressSubject _ _ toyDeflate_laws _ _ nd_inv lf_rt rfl hz
  exact ⟨z, nd, hz, hu, uncompressSubject_compressSubject_digest _ _ _ _ _ nd_inv toyHash_valid hz hu⟩

/-- no panic: the decoder never panics and a canonical node has an assertion -/
theorem uncompressSubject_no_panic (e : Env) (hc : Canon e) (s : String) :
    uncompressSubject h Z e ≠ .panic s :=
  Obs.uncompressSubject_ne_panic h Z hc s

example (s : String) : uncompressSubject toyHash toyDeflate nd ≠ .panic s :=
  uncompressSubject_no_panic toyHash toyDeflate nd nd_inv.2 s

end
end EnvVerif
