/-
  Props/C12.lean — C12: inclusion proofs.

  "For any envelope and any set of target digests, a proof is produced iff every target
  occurs in the envelope; a produced proof has the envelope's root digest and is accepted,
  for those targets, by a verifier who holds only the root digest. A verifier never accepts
  a proof whose root digest differs from its own or in which some target does not occur,
  and a proof discloses structure only along the paths from the root to the targets: every
  element off those paths, and each target itself, appears solely as an elided digest."

  The hash `h` is arbitrary.  Positions are `Path`s (`Lemmas/Paths.lean`): `e.at p = some x`
  says that `x` is the element of `e` at position `p`.  `proofOf T e` (`Lemmas/ProofLemmas.lean`)
  is the proof envelope as a pure function: an element is kept exactly where a target lies
  strictly beneath it, every other element is replaced by its digest.  So a target with a target
  beneath it is kept: "each target itself" is proved, in `proof_minimal`, of the targets with
  none beneath.  An element that merely shares its digest with an element on a path (a
  compressed, encrypted or partly elided copy elsewhere in the envelope) is elided like
  everything else off the paths (`proof_F5b_repaired`).  `Inv h e` is needed wherever the
  traversal rebuilds nodes: on an envelope that is only `WF` the rebuilding `assert!` can fire
  (`proof_panics_without_canon`).
-/
import EnvVerif.Lemmas.ProofLemmas
namespace EnvVerif
open Env C12Sample

/-- the verifier's test, by membership: `remove_all_found` stops walking once no target is left,
but returns what the full walk would (`removeAllFound_eq`) -/
theorem containsAll_iff (p : Env) (T : List Digest) :
    containsAll p T = true ↔ ∀ d ∈ T, d ∈ walkDigests p := by
  rw [containsAll, removeAllFound_eq, filtOut_isEmpty_iff, walkDigests_eq_elements]

theorem walkDigests_iff_at (e : Env) (d : Digest) :
    d ∈ walkDigests e ↔ ∃ p x, e.at p = some x ∧ x.digest = d :=
  mem_walkDigests_iff

/-- **soundness and completeness of the verifier**: a proof is accepted iff its root digest
is the verifier's and every target occurs in it -/
theorem confirm_iff (e : Env) (T : List Digest) (p : Env) :
    confirmContainsSet e T p = true ↔ e.digest = p.digest ∧ ∀ d ∈ T, d ∈ walkDigests p := by
  simp only [confirmContainsSet, Bool.and_eq_true, beq_iff_eq, containsAll_iff]

/-- a proof with another root digest is never accepted -/
theorem confirm_rejects_other_root (e : Env) (T : List Digest) (p : Env)
    (hd : e.digest ≠ p.digest) : confirmContainsSet e T p = false :=
  Bool.eq_false_iff.2 fun hc => hd ((confirm_iff e T p).mp hc).1

example : ∃ e p : Env, e.digest ≠ p.digest := ⟨e0, a1, by rw [e0_digest, a1_digest]; decide⟩

/-- a proof in which some target does not occur is never accepted -/
theorem confirm_rejects_absent_target (e : Env) (T : List Digest) (p : Env) (d : Digest)
    (hd : d ∈ T) (hab : d ∉ walkDigests p) : confirmContainsSet e T p = false :=
  Bool.eq_false_iff.2 fun hc => hab (((confirm_iff e T p).mp hc).2 d hd)

example : ∃ (T : List Digest) (p : Env) (d : Digest), d ∈ T ∧ d ∉ walkDigests p :=
  ⟨[⟨9⟩], e0, ⟨9⟩, List.mem_cons_self, by rw [e0_nf]; decide +kernel⟩

/-- `reveal_sets` started with `cur` above the element yields `cur` and the digests on the
chain from the element down to a target position, both ends included, provided the element
has a target position at all -/
theorem revealSets_spec (T cur : List Digest) (e : Env) (d : Digest) :
    d ∈ revealSets T cur e ↔
      ∃ p x, e.at p = some x ∧ memD T x.digest = true ∧
        (d ∈ cur ∨ ∃ q y, q <+: p ∧ e.at q = some y ∧ y.digest = d) :=
  revealSets_iff T e cur d

/-- `has_target_beneath`: some position strictly below holds a target -/
theorem hasTargetBeneath_spec (T : List Digest) (e : Env) :
    hasTargetBeneath T e = true ↔ ∃ st t y, e.at (st :: t) = some y ∧ memD T y.digest = true :=
  hasTargetBeneath_iff T e

section
variable (h : Hash)

/-- `proof_contains_set` in closed form -/
theorem proof_eq (e : Env) (T : List Digest) (hi : Inv h e) :
    proofContainsSet h e T =
      .ok (if ∀ d ∈ T, d ∈ walkDigests e then some (proofOf T e) else none) :=
  proofContainsSet_eq h T e hi.1 (Canon.shape e hi.2)

example : Inv sumH e0 := inv_e0

theorem proof_no_fault (e : Env) (T : List Digest) (hi : Inv h e) :
    (∀ s, proofContainsSet h e T ≠ .err s) ∧ (∀ s, proofContainsSet h e T ≠ .panic s) := by
  rw [proof_eq h e T hi]
  exact ⟨fun s hs => (by cases hs), fun s hs => (by cases hs)⟩

example : Inv sumH e0 := inv_e0

/-- `WF` alone does not exclude a panic: on a node with an empty assertion list (which the
library never builds) the `assert!` of `new_with_unchecked_assertions` fires -/
theorem proof_panics_without_canon :
    WF sumH eP ∧
    proofContainsSet sumH eP [⟨7⟩] = .panic "envelope.rs:new_with_unchecked_assertions:assert" :=
  ⟨wf_eP, proofContainsSet_eP⟩

/-- **a proof is produced iff every target occurs in the envelope** -/
theorem proof_some_iff (e : Env) (T : List Digest) (hi : Inv h e) :
    (∃ p, proofContainsSet h e T = .ok (some p)) ↔ ∀ d ∈ T, d ∈ walkDigests e := by
  rw [proof_eq h e T hi]
  split <;> rename_i hc
  · exact ⟨fun _ => hc, fun _ => ⟨_, rfl⟩⟩
  · exact ⟨fun ⟨_, hp⟩ => (nomatch hp), fun hall => absurd hall hc⟩

example : Inv sumH e0 ∧ ∀ d ∈ T0, d ∈ walkDigests e0 := ⟨inv_e0, all_e0⟩

/-- otherwise the answer is `None` -/
theorem proof_none_iff (e : Env) (T : List Digest) (hi : Inv h e) :
    proofContainsSet h e T = .ok none ↔ ∃ d ∈ T, d ∉ walkDigests e := by
  rw [proof_eq h e T hi]
  split <;> rename_i hc
  · exact ⟨fun hp => (nomatch hp), fun ⟨d, hd, hn⟩ => absurd (hc d hd) hn⟩
  · exact ⟨fun _ => by simpa using hc, fun _ => rfl⟩

example : Inv sumH e0 ∧ ∃ d ∈ [(⟨2⟩ : Digest), ⟨9⟩], d ∉ walkDigests e0 :=
  ⟨inv_e0, ⟨9⟩, List.mem_cons_of_mem _ List.mem_cons_self, by rw [e0_nf]; decide +kernel⟩

/-- the "only if" half needs no hypothesis on the envelope -/
theorem proof_some_only_if (e : Env) (T : List Digest) (p : Env)
    (hp : proofContainsSet h e T = .ok (some p)) : ∀ d ∈ T, d ∈ walkDigests e := by
  rw [← all_reveal_iff]
  cases hall : T.all (memD (revealSets T [] e)) with
  | true => rfl
  | false => simp [proofContainsSet, hall] at hp

example : proofContainsSet sumH e0 T0 = .ok (some (proofOf T0 e0)) := proof_e0

theorem proof_ok_eq (e : Env) (T : List Digest) (p : Env) (hi : Inv h e)
    (hp : proofContainsSet h e T = .ok (some p)) :
    p = proofOf T e ∧ ∀ d ∈ T, d ∈ walkDigests e := by
  rw [proof_eq h e T hi] at hp
  split at hp <;> cases hp
  exact ⟨rfl, ‹_›⟩

/-- the sample: targets `2`, `1: 2` (which contains `2`) and `4` in `7 [1: 2, 1: 4]`; it meets the two
hypotheses the theorems below share -/
example : Inv sumH e0 ∧ proofContainsSet sumH e0 T0 = .ok (some (proofOf T0 e0)) :=
  ⟨inv_e0, proof_e0⟩

/-- its proof: the subject and the leaves are elided, the target `1: 2` stays revealed
because the target `2` lies beneath it -/
example : proofOf T0 e0 =
    .node (.elided ⟨7⟩) [.assertion (.elided ⟨1⟩) (.elided ⟨2⟩) ⟨3⟩,
      .assertion (.elided ⟨1⟩) (.elided ⟨4⟩) ⟨5⟩] ⟨15⟩ := by
  rw [e0_nf]; rfl

/-- **a produced proof has the envelope's root digest** -/
theorem proof_digest (e : Env) (T : List Digest) (p : Env) (hi : Inv h e)
    (hp : proofContainsSet h e T = .ok (some p)) : p.digest = e.digest := by
  obtain ⟨rfl, _⟩ := proof_ok_eq h e T p hi hp
  exact proofOf_digest T e

example : Inv sumH e0 ∧ proofContainsSet sumH e0 T0 = .ok (some (proofOf T0 e0)) :=
  ⟨inv_e0, proof_e0⟩

/-- every target occurs in a produced proof -/
theorem proof_contains_targets (e : Env) (T : List Digest) (p : Env) (hi : Inv h e)
    (hp : proofContainsSet h e T = .ok (some p)) : ∀ d ∈ T, d ∈ walkDigests p := by
  obtain ⟨rfl, hall⟩ := proof_ok_eq h e T p hi hp
  intro d hd
  exact target_in_proof hd (hall d hd)

example : Inv sumH e0 ∧ proofContainsSet sumH e0 T0 = .ok (some (proofOf T0 e0)) :=
  ⟨inv_e0, proof_e0⟩

/-- **a produced proof is accepted**, for the same targets, by any verifier whose envelope
has the same root digest — for instance one who holds only the elided root -/
theorem proof_accepted (e : Env) (T : List Digest) (p : Env) (hi : Inv h e)
    (hp : proofContainsSet h e T = .ok (some p)) :
    ∀ e' : Env, e'.digest = e.digest → confirmContainsSet e' T p = true := by
  intro e' he'
  rw [confirm_iff]
  exact ⟨by rw [he', proof_digest h e T p hi hp], proof_contains_targets h e T p hi hp⟩

example : Inv sumH e0 ∧ proofContainsSet sumH e0 T0 = .ok (some (proofOf T0 e0)) ∧
    (Env.elided e0.digest).digest = e0.digest :=
  ⟨inv_e0, proof_e0, rfl⟩

/-- **minimality, by positions**, with no hypothesis on the hash: every position of the proof
is a position of the envelope with the same digest, and the proof shows it non-elided exactly
when it lies strictly above a target position -/
theorem proof_minimal (e : Env) (T : List Digest) (p : Env) (hi : Inv h e)
    (hp : proofContainsSet h e T = .ok (some p)) :
    ∀ pos x, p.at pos = some x →
      ∃ y, e.at pos = some y ∧ x.digest = y.digest ∧
        (x.isElided = false ↔ AboveTarget T e pos) := by
  obtain ⟨rfl, _⟩ := proof_ok_eq h e T p hi hp
  intro pos x hx
  obtain ⟨y, hy, rfl⟩ := proofOf_at_some hx
  refine ⟨y, hy, proofOf_digest T y, ?_⟩
  rw [proofOf_isElided, ← hasTargetBeneath_at_iff hy]
  cases hasTargetBeneath T y <;> simp

example : Inv sumH e0 ∧ proofContainsSet sumH e0 T0 = .ok (some (proofOf T0 e0)) :=
  ⟨inv_e0, proof_e0⟩

/-- hence every position off the paths from the root to the targets, and every target position
with no target beneath it, holds an elided digest, also when it shares its digest with an
element on a path -/
theorem proof_off_path_elided (e : Env) (T : List Digest) (p : Env) (hi : Inv h e)
    (hp : proofContainsSet h e T = .ok (some p)) :
    ∀ pos x, p.at pos = some x → ¬ AboveTarget T e pos → x.isElided = true := by
  intro pos x hx hna
  obtain ⟨y, _, _, hiff⟩ := proof_minimal h e T p hi hp pos x hx
  cases hel : x.isElided with
  | true => rfl
  | false => exact absurd (hiff.mp hel) hna

example : Inv sumH e0 ∧ proofContainsSet sumH e0 T0 = .ok (some (proofOf T0 e0)) :=
  ⟨inv_e0, proof_e0⟩

/-- conversely the paths are all there: every position strictly above a target position,
non-elided, with the envelope's digest; and every target position -/
theorem proof_shows_paths (e : Env) (T : List Digest) (p : Env) (hi : Inv h e)
    (hp : proofContainsSet h e T = .ok (some p)) :
    (∀ pos y, e.at pos = some y → AboveTarget T e pos →
      ∃ x, p.at pos = some x ∧ x.isElided = false ∧ x.digest = y.digest) ∧
    (∀ t, IsTargetPos T e t → ∃ x, p.at t = some x ∧ memD T x.digest = true) := by
  obtain ⟨rfl, _⟩ := proof_ok_eq h e T p hi hp
  constructor
  · rintro pos y hy ⟨t, hpt, hne, ht⟩
    refine ⟨proofOf T y, proofOf_at_of_target ht hpt hy, ?_, proofOf_digest T y⟩
    rw [proofOf_isElided, (hasTargetBeneath_at_iff hy).mpr ⟨t, hpt, hne, ht⟩]; rfl
  · rintro t ⟨y, hy, hm⟩
    exact ⟨proofOf T y, proofOf_at_of_target ⟨y, hy, hm⟩ (List.prefix_refl _) hy,
      by rw [proofOf_digest]; exact hm⟩

example : Inv sumH e0 ∧ proofContainsSet sumH e0 T0 = .ok (some (proofOf T0 e0)) :=
  ⟨inv_e0, proof_e0⟩

/-- a proof carries no content: every element of it is an elided digest or a shallow frame
(node / wrapped / assertion; on a path by `proof_minimal`), never a leaf, a known value, an
encrypted or a compressed element -/
theorem proof_no_payload (e : Env) (T : List Digest) (p : Env) (hi : Inv h e)
    (hp : proofContainsSet h e T = .ok (some p)) :
    ∀ pos x, p.at pos = some x → x.isElided = true ∨ x.isInternal = true := by
  obtain ⟨rfl, _⟩ := proof_ok_eq h e T p hi hp
  intro pos x hx
  obtain ⟨y, _, rfl⟩ := proofOf_at_some hx
  exact proofOf_cases T y

example : Inv sumH e0 ∧ proofContainsSet sumH e0 T0 = .ok (some (proofOf T0 e0)) :=
  ⟨inv_e0, proof_e0⟩

/-- the shape of finding F5b (`COMPRESSED(digest 3) [1: 2]`, target `2`): the
compressed subject, which shares its digest with the assertion on the path, is elided -/
theorem proof_F5b_repaired :
    Inv sumH eB ∧
    proofContainsSet sumH eB TB =
      .ok (some (.node (.elided ⟨3⟩) [.assertion (.elided ⟨1⟩) (.elided ⟨2⟩) ⟨3⟩] eB.digest)) := by
  refine ⟨inv_eB, ?_⟩
  rw [proof_eq sumH eB TB inv_eB, if_pos all_eB, proof_eB]

end

end EnvVerif
