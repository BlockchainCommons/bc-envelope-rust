/-
  Props/C02.lean — C02 "obscuring never changes a digest".

  The traversal `elide_set_with_action` (any target set, mode, action): the root digest is kept
  (`elideSet_digest`) and every element still present has the digest of the original's element at the
  same position (`elideSet_positions`).  `elide`, `compress`, `compress_subject`, `encrypt_subject`:
  the root digest is kept.  `encrypt`: the result has the digest of the WRAPPED original
  (`encryptWhole_digest`).

  Hypotheses:
  * `Inv h e`.  `WF` alone is NOT enough: on a `WF` envelope whose assertions are stored out of order
    the traversal changes the digest (`elideSet_digest_needs_canon`) or fires an `assert!`
    (`elideSet_panics_without_canon`).
  * `ActOk act e` — `True` for the elide and compress actions; for the encrypt action the codec fact
    `AadOk d` ("a message whose aad is `(digestCbor d).enc` declares digest `d`") at every digest `d`
    occurring in `e`.  `ActOk.of_laws` derives it from `AadLaw` (the fact for every 32-byte digest,
    a theorem of the model: `aadOk_of_valid`) and `HashValid h`.
-/
import EnvVerif.Lemmas.ElideLemmas
namespace EnvVerif
open Env

section
variable (h : Hash) (A : Aead) (Z : Deflate) (T : Digest → Bool) (rev : Bool) (act : Action)

theorem elideSet_digest {e r : Env} (hi : Inv h e) (ha : ActOk act e)
    (hr : elideSet h A Z T rev act e = .ok r) : r.digest = e.digest := by
  rw [elideSet_ok_eq h A Z hi ha hr]
  exact elideP_digest (placeholder_digest A Z act) e

example : Inv Sample.toyH Sample.e0 ∧ ActOk act Sample.e0 := ⟨Sample.inv_e0, Sample.actOk_e0 act⟩

theorem elideSet_positions {e r : Env} (hi : Inv h e) (ha : ActOk act e)
    (hr : elideSet h A Z T rev act e = .ok r) :
    ∀ p x, r.at p = some x → ∃ y, e.at p = some y ∧ x.digest = y.digest := by
  obtain rfl := elideSet_ok_eq h A Z hi ha hr
  intro p x hx
  by_cases hn : NoHitAbove T rev e p
  · rw [elideP_at hn] at hx
    obtain ⟨y, hy, rfl⟩ := Option.map_eq_some_iff.1 hx
    exact ⟨y, hy, elideP_digest (placeholder_digest A Z act) y⟩
  · rw [elideP_at_none (placeholder_isObscured A Z act) hn] at hx
    cases hx

example : Inv Sample.toyH Sample.e0 ∧ ActOk act Sample.e0 ∧
    ∃ r, elideSet Sample.toyH A Z Sample.T3 rev act Sample.e0 = .ok r :=
  ⟨Sample.inv_e0, Sample.actOk_e0 act,
    elideSet_isOk Sample.toyH A Z Sample.T3 rev act Sample.inv_e0 (Sample.actOk_e0 act)⟩

/-- with `elideSet_positions`: the result's positions form a subtree of the original's -/
theorem elideSet_positions_prefix_closed {r x : Env} {p q : Path} (hx : r.at (p ++ q) = some x) :
    ∃ y, r.at p = some y := by
  rw [Env.at_append, Option.bind_eq_some_iff] at hx
  exact hx.imp fun _ => And.left

/-- a `WF` node whose assertions are stored in descending order is re-sorted by
`new_with_unchecked_assertions`, and its digest changes (the hash is the big-endian value of the
image, so that order matters) -/
theorem elideSet_digest_needs_canon :
    ∃ (h : Hash) (e r : Env), WF h e ∧
      elideSet h A Z (fun _ => false) false .elide e = .ok r ∧ r.digest ≠ e.digest :=
  ⟨Sample.ordH, Sample.cex, _, Sample.cex_wf, Sample.cex_run A Z, Sample.cex_digest_ne⟩

/-- … and one level up the changed digest fires the `assert!` of the wrapped case -/
theorem elideSet_panics_without_canon :
    ∃ (h : Hash) (e : Env) (s : String), WF h e ∧
      elideSet h A Z (fun _ => false) false .elide e = .panic s :=
  ⟨Sample.ordH, newWrapped Sample.ordH Sample.cex, _, ⟨Sample.cex_wf, rfl⟩, Sample.cex_wrapped_panics A Z⟩

theorem elideSet_no_err (e : Env) (x : String) : elideSet h A Z T rev act e ≠ .err x :=
  elideSet_not_err h A Z T rev act e x

/-- no `assert!` / `unwrap()` on the path fires, for all three actions (for encrypt under the codec
fact in `ActOk`) -/
theorem elideSet_no_panic {e : Env} (hi : Inv h e) (ha : ActOk act e) :
    ∃ r, elideSet h A Z T rev act e = .ok r :=
  elideSet_isOk h A Z T rev act hi ha

example : Inv Sample.toyH Sample.e0 ∧ ActOk act Sample.e0 := ⟨Sample.inv_e0, Sample.actOk_e0 act⟩

theorem elideSet_elide_no_panic {e : Env} (hi : Inv h e) :
    ∃ r, elideSet h A Z T rev .elide e = .ok r :=
  elideSet_isOk h A Z T rev .elide hi trivial

theorem elideSet_compress_no_panic {e : Env} (hi : Inv h e) :
    ∃ r, elideSet h A Z T rev .compress e = .ok r :=
  elideSet_isOk h A Z T rev .compress hi trivial

theorem elideSet_encrypt_no_panic {e : Env} (hi : Inv h e) (hAad : AadLaw) (hH : HashValid h)
    (key : Bytes) (nonce : Digest → Bytes) :
    ∃ r, elideSet h A Z T rev (.encrypt key nonce) e = .ok r :=
  elideSet_isOk h A Z T rev _ hi (ActOk.of_laws hAad hH hi _)

example : Inv Sample.toyH Sample.e0 := Sample.inv_e0

/-- under `Inv` and `ActOk` both sides hold, each for its own reason (`elideSet_no_panic`;
`obscure_isOk` on every topmost hit element).  NOT said: that the action on a topmost hit element is
the only step that can fail - that would be the equivalence without `ActOk`. -/
theorem elideSet_ok_iff {e : Env} (hi : Inv h e) (ha : ActOk act e) :
    (∃ r, elideSet h A Z T rev act e = .ok r) ↔
      ∀ p y, TopHit T rev e p y → ∃ x, obscure A Z act y = .ok x :=
  ⟨fun _ _ _ ht => obscure_isOk A Z (ha.at_pos ht.1), fun _ => elideSet_isOk h A Z T rev act hi ha⟩

example : Inv Sample.toyH Sample.e0 ∧ ActOk act Sample.e0 := ⟨Sample.inv_e0, Sample.actOk_e0 act⟩

theorem elideSet_panic_iff_not_ok (e : Env) :
    (∃ s, elideSet h A Z T rev act e = .panic s) ↔ ¬ ∃ r, elideSet h A Z T rev act e = .ok r := by
  cases hr : elideSet h A Z T rev act e with
  | ok r => simp
  | err x => exact absurd hr (elideSet_not_err h A Z T rev act e x)
  | panic s => simp

theorem elide_digest (e : Env) : (elide e).digest = e.digest := by
  rw [elide_eq]; rfl

theorem compress_digest {e r : Env} (hr : compress Z e = .ok r) : r.digest = e.digest :=
  compress_ok_digest Z hr

theorem compressSubject_digest {e r : Env} (hi : Inv h e)
    (hr : compressSubject h Z e = .ok r) : r.digest = e.digest := by
  obtain ⟨c, hc, rfl⟩ := (compressSubject_eq_ok h Z hi).1 hr
  exact setSubject_digest (compress_ok_digest Z hc)

example : Inv Sample.toyH Sample.e0 := Sample.inv_e0

/-- the function checks this itself with `assert_eq!`; under the hypotheses of
`encryptSubject_no_panic` that check does not fire -/
theorem encryptSubject_digest {key nonce : Bytes} {e r : Env}
    (hr : encryptSubject h A key nonce e = .ok r) : r.digest = e.digest :=
  encryptSubject_ok_digest h A hr

/-- neither `new_with_encrypted(..).unwrap()` nor the `assert_eq!` on the digests fires -/
theorem encryptSubject_no_panic {key nonce : Bytes} {e : Env} (hi : Inv h e)
    (ha : AadOk e.subject.digest) (s : String) : encryptSubject h A key nonce e ≠ .panic s := by
  rw [encryptSubject_eq h A key nonce hi ha]
  split <;> nofun

example : Inv Sample.toyH Sample.e0 ∧ AadOk Sample.e0.subject.digest :=
  ⟨Sample.inv_e0, aadOk_of_valid (by
    rw [show Sample.e0.subject.digest = ⟨7⟩ from Sample.lf_digest_7]
    unfold Digest.Valid
    decide)⟩

theorem encryptWhole_ok {key nonce : Bytes} {e : Env} (ha : AadOk (wrap h e).digest) :
    encryptWhole h A key nonce e =
      .ok (.encrypted (encryptWithDigest A key nonce (encode (wrap h e)) (wrap h e).digest)
        (wrap h e).digest) :=
  encryptWhole_eq h A ha

example : AadOk (wrap Sample.toyH Sample.e0).digest :=
  aadOk_of_valid (by
    rw [show (wrap Sample.toyH Sample.e0).digest = Sample.toyH.ofDigests [Sample.e0.digest] from rfl,
      Sample.e0_digest]
    unfold Digest.Valid
    decide +kernel)

theorem encryptWhole_digest {key nonce : Bytes} {e r : Env}
    (hr : encryptWhole h A key nonce e = .ok r) : r.digest = (wrap h e).digest :=
  encryptSubject_ok_digest h A ((encryptWhole_eq_ok h A).1 hr)

end
end EnvVerif
