/-
  Props/C16.lean — C16 "no operation panics".

  In the model every `unwrap()`, `expect`, `assert!`, slice index and `panic!` of the
  modelled Rust functions is an explicit `Res.panic "<site>"` branch, so
  `f … ≠ .panic s` (for every `s`) says: the call returns a value, `None` or an error.

  Modelled operations with NO theorem here (helpers that only a listed operation calls aside):
  * `addAssertionUnwrap` (`AW.addAssertionUnwrap_isOk`), `addSaltInRange`, `addSaltProportional`
    (Props/C17.lean), `addAssertionEnvelopeSalted` (`NP.addAssertionEnvelopeSalted_np`);
  * `addToEnvelope` (a panic site of its own, `attachments.rs:add_to_envelope:unwrap`, reached
    by an element that is not a legal slot), `attachmentsOfEnvelope`
    (`attachmentsWith .. none none`);
  * `Expression.parseExpecting` (Props/C18.lean), `Expression.objectForParameter` /
    `objectsForParameter`;
  * Model/Proof.lean other than `proofContainsSet`; Model/Recipient.lean, Seal, Ur, Variants
    (recipient operations and `sskr_join`: `c10_no_panic`, `c11_join_total`).
  Hypotheses:
  * `Inv h e` (holds of every envelope the library builds or decodes: C04 `history_inv_all`,
    `produced_inv_all`) or its `Canon e` half; none where the operation cannot panic on any
    value of the model type (most: the `unwrap()` sits on
    `add_assertion_envelope(new_assertion(..))`, which cannot fail, or on a lookup that goes
    through `subject()`);
  * `HashValid h` for the operations that encrypt.  The codec fact `new_with_encrypted(..).unwrap()`
    relies on (`AadLaw`) is proved for the model codec (`NP.aadLaw`).
  Four operations CAN panic in the model; for them the exact condition is stated
  (`…_panic_iff`).  The other theorems with `Inv` / `Canon` give a sufficient condition only;
  for the traversal there is one witness (`c16_elideSet_panics_without_canon`).
-/
import EnvVerif.Lemmas.NoPanicLemmas
import EnvVerif.Lemmas.SigLemmas
import EnvVerif.Lemmas.ProofLemmas
import EnvVerif.Props.C04
namespace EnvVerif
open Env InvL

section
variable (h : Hash) (A : Aead) (Z : Deflate) (V : SigScheme)

/-- the `assert!` of `new_with_unchecked_assertions` (crate-private, never called with `[]`) -/
theorem c16_newNodeUnchecked_panic_iff (s : Env) (as : List Env) :
    (∃ p, newNodeUnchecked h s as = .panic p) ↔ as = [] := by
  unfold newNodeUnchecked
  cases as <;> simp

theorem c16_newNodeUnchecked_no_panic (s : Env) {as : List Env} (hne : as ≠ []) (p : String) :
    newNodeUnchecked h s as ≠ .panic p :=
  fun hp => hne ((c16_newNodeUnchecked_panic_iff h s as).1 ⟨p, hp⟩)

example : [sA2, sA1] ≠ [] := by simp

/-- `new_with_assertions`: the same `assert!` (on `[]` the slot check passes vacuously) -/
theorem c16_newNode_panic_iff (s : Env) (as : List Env) :
    (∃ p, newNode h s as = .panic p) ↔ as = [] := by
  unfold newNode newNodeUnchecked
  cases as with
  | nil => simp
  | cons a as => by_cases hh : (a :: as).all slotOk = true <;> simp [hh]

theorem c16_newNode_no_panic (s : Env) {as : List Env} (hne : as ≠ []) (p : String) :
    newNode h s as ≠ .panic p :=
  fun hp => hne ((c16_newNode_panic_iff h s as).1 ⟨p, hp⟩)

example : [sA2, sA1] ≠ [] := by simp

/-- `add_assertion_envelope`: the list handed to the constructor has the new element in it -/
theorem c16_addAssertionEnvelope_no_panic (e a : Env) (s : String) :
    addAssertionEnvelope h e a ≠ .panic s := by
  rw [AW.addAssertionEnvelope_eq]
  split <;> nofun

/-- `remove_assertion`: removing the last assertion returns the subject -/
theorem c16_removeAssertion_no_panic (e target : Env) (s : String) :
    removeAssertion h e target ≠ .panic s := by
  rw [AW.removeAssertion_eq]
  nofun

theorem c16_replaceAssertion_no_panic (e a b : Env) (s : String) :
    replaceAssertion h e a b ≠ .panic s :=
  Res.bind_ne_panic (c16_removeAssertion_no_panic h e a)
    (fun x _ => c16_addAssertionEnvelope_no_panic h x b) s

/-- `replace_subject`: its `add_assertion_envelope(..).unwrap()` fires exactly when one of
the receiver's assertions is not a legal assertion slot -/
theorem c16_replaceSubject_panic_iff (e s : Env) :
    (∃ p, replaceSubject h e s = .panic p) ↔ ∃ a ∈ e.assertions, a.slotOk = false := by
  rw [NP.replaceSubject_eq]
  exact NP.unwrapFold_panic_iff h _ e.assertions s

/-- … which `Canon` excludes -/
theorem c16_replaceSubject_no_panic {e : Env} (hc : Canon e) (s : Env) (p : String) :
    replaceSubject h e s ≠ .panic p :=
  Res.ne_panic_of_isOk (replaceSubject_isOk h s hc.slotOk) p

example : Canon sNode := sNode_inv.2

/-- `add_assertion_envelopes`, error propagated -/
theorem c16_addAll_no_panic (e : Env) (as : List Env) (s : String) : addAll h e as ≠ .panic s :=
  Res.foldl_bind_ne_panic _ (c16_addAssertionEnvelope_no_panic h) as _ (Res.ok_ne_panic e) s

theorem c16_unwrap_no_panic (e : Env) (s : String) : unwrap e ≠ .panic s := unwrap_ne_panic e s

theorem c16_envOfCbor_no_panic (c : Cbor) (s : String) : envOfCbor h c ≠ .panic s :=
  (envOfCbor_sat h c).ne_panic s

theorem c16_envOfTaggedCbor_no_panic (c : Cbor) (s : String) : envOfTaggedCbor h c ≠ .panic s :=
  (envOfTaggedCbor_sat h c).ne_panic s

/-- `from_tagged_cbor_data` -/
theorem c16_decode_no_panic (b : Bytes) (s : String) : decode h b ≠ .panic s :=
  (decode_sat h b).ne_panic s

/-- `elide` is a total function of the model (the Rust function has no panic site); stated of
the `Op` step -/
theorem c16_elide_no_panic (e : Env) (s : String) : applyOp h A Z .elide e ≠ .panic s :=
  Res.ok_ne_panic (elide e) s

theorem c16_compress_no_panic (e : Env) (s : String) : compress Z e ≠ .panic s :=
  compress_not_panic Z e s

/-- the action applied to a hit element: `elide` and `compress().unwrap_or_else(..)` have no
panic site; the aad written by `encrypt_with_digest` always declares a digest, so
`new_with_encrypted(..).unwrap()` does not fire -/
theorem c16_obscure_no_panic (act : Action) (e : Env) (s : String) : obscure A Z act e ≠ .panic s := by
  cases act with
  | encrypt k n =>
    obtain ⟨d', hd'⟩ := NP.optDigest_isSome_of_aad
      (encryptWithDigest_aad A k (n e.digest) (encode e) e.digest)
    rw [obscure, newEncryptedUnwrap_eq hd']
    nofun
  | _ => exact Res.ne_panic_of_isOk (obscure_isOk A Z (e := e) (by trivial)) s

/-- `elide_set_with_action`: none of its four `assert!`s, nor the constructor's, nor the
`unwrap()` of the encrypt action fires -/
theorem c16_elideSet_no_panic {e : Env} (hi : Inv h e) (hH : HashValid h) (T : Digest → Bool)
    (rev : Bool) (act : Action) (s : String) : elideSet h A Z T rev act e ≠ .panic s :=
  Res.ne_panic_of_isOk (elideSet_isOk h A Z T rev act hi (NP.actOk hH hi act)) s

example : Inv toyHash sNode ∧ HashValid toyHash := ⟨sNode_inv, toyHash_valid⟩

/-- … nor is there an error path: it returns an envelope -/
theorem c16_elideSet_ok {e : Env} (hi : Inv h e) (hH : HashValid h) (T : Digest → Bool)
    (rev : Bool) (act : Action) : ∃ r, elideSet h A Z T rev act e = .ok r :=
  elideSet_isOk h A Z T rev act hi (NP.actOk hH hi act)

example : Inv toyHash sNode ∧ HashValid toyHash := ⟨sNode_inv, toyHash_valid⟩

/-- the elide action needs nothing of the hash -/
theorem c16_elideSet_elide_no_panic {e : Env} (hi : Inv h e) (T : Digest → Bool) (rev : Bool)
    (s : String) : elideSet h A Z T rev .elide e ≠ .panic s :=
  Res.ne_panic_of_isOk (elideSet_isOk h A Z T rev .elide hi trivial) s

example : Inv toyHash sNode := sNode_inv

/-- nor does the compress action -/
theorem c16_elideSet_compress_no_panic {e : Env} (hi : Inv h e) (T : Digest → Bool) (rev : Bool)
    (s : String) : elideSet h A Z T rev .compress e ≠ .panic s :=
  Res.ne_panic_of_isOk (elideSet_isOk h A Z T rev .compress hi trivial) s

example : Inv toyHash sNode := sNode_inv

theorem c16_elideSet_encrypt_no_panic {e : Env} (hi : Inv h e) (hH : HashValid h)
    (T : Digest → Bool) (rev : Bool) (key : Bytes) (nonce : Digest → Bytes) (s : String) :
    elideSet h A Z T rev (.encrypt key nonce) e ≠ .panic s :=
  c16_elideSet_no_panic h A Z hi hH T rev _ s

example : Inv toyHash sNode ∧ HashValid toyHash := ⟨sNode_inv, toyHash_valid⟩

/-- `Canon` is needed: a well-formed envelope holding a node stored out of order (which the
library never builds or decodes) fires the `assert!` of the wrapped case -/
theorem c16_elideSet_panics_without_canon :
    ∃ (h : Hash) (e : Env) (s : String), WF h e ∧
      elideSet h A Z (fun _ => false) false .elide e = .panic s :=
  ⟨Sample.ordH, newWrapped Sample.ordH Sample.cex, _, ⟨Sample.cex_wf, rfl⟩, Sample.cex_wrapped_panics A Z⟩

theorem c16_unelide_no_panic (placeholder e : Env) (s : String) : unelide placeholder e ≠ .panic s := by
  fun_cases unelide placeholder e <;> nofun

/-- `encrypt_subject`: neither `new_with_encrypted(..).unwrap()` nor the `assert_eq!` on the
digests fires -/
theorem c16_encryptSubject_no_panic {e : Env} (hi : Inv h e) (hH : HashValid h)
    (key nonce : Bytes) (s : String) : encryptSubject h A key nonce e ≠ .panic s := by
  rw [Obs.encryptSubject_eq_of_hashValid h A key nonce hi hH]
  split <;> nofun

example : Inv toyHash sNode ∧ HashValid toyHash := ⟨sNode_inv, toyHash_valid⟩

/-- `decrypt_subject`: the decoder does not panic, a canonical node has an assertion -/
theorem c16_decryptSubject_no_panic {e : Env} (hc : Canon e) (key : Bytes) (s : String) :
    decryptSubject h A key e ≠ .panic s :=
  Obs.decryptSubject_ne_panic h A hc s

example : Canon sEnc := sEnc_inv.2

/-- `encrypt` = `wrap_envelope().encrypt_subject(key).unwrap()`: no `Inv` needed, the wrapped
envelope is neither encrypted nor elided -/
theorem c16_encryptWhole_no_panic (hH : HashValid h) (key nonce : Bytes) (e : Env) (s : String) :
    encryptWhole h A key nonce e ≠ .panic s :=
  Res.ne_panic_of_isOk ⟨_, encryptWhole_eq h A (aadOk_of_valid (hH _))⟩ s

example : HashValid toyHash := toyHash_valid

theorem c16_decryptWhole_no_panic {e : Env} (hc : Canon e) (key : Bytes) (s : String) :
    decryptWhole h A key e ≠ .panic s :=
  Res.bind_ne_panic (c16_decryptSubject_no_panic h A hc key) (fun x _ => c16_unwrap_no_panic x) s

example : Canon sEncW := sEncW_inv.2

theorem c16_uncompress_no_panic (e : Env) (s : String) : uncompress h Z e ≠ .panic s :=
  Obs.uncompress_ne_panic h Z e s

/-- `compress_subject`: the `unwrap()` inside `replace_subject` does not fire (the `Canon` half
of `Inv` would do, through `c16_replaceSubject_no_panic`) -/
theorem c16_compressSubject_no_panic {e : Env} (hi : Inv h e) (s : String) :
    compressSubject h Z e ≠ .panic s := by
  rw [compressSubject_eq h Z hi]
  exact Res.bind_ne_panic (compress_not_panic Z _) (fun _ _ => Res.ok_ne_panic _) s

example : Inv toyHash sNode := sNode_inv

theorem c16_uncompressSubject_no_panic {e : Env} (hc : Canon e) (s : String) :
    uncompressSubject h Z e ≠ .panic s :=
  Obs.uncompressSubject_ne_panic h Z hc s

example : Canon sNodeC := sNodeC_inv.2

theorem c16_assertionWithPredicate_no_panic (e p : Env) (s : String) :
    assertionWithPredicate e p ≠ .panic s :=
  AW.assertionWithPredicate_ne_panic e p s

/-- `object_for_predicate` (`.subject().as_object()`): the matching element's subject is an
assertion, also when the element carries its own assertions (a salted one, say) -/
theorem c16_objectForPredicate_no_panic (e p : Env) (s : String) :
    objectForPredicate e p ≠ .panic s :=
  AW.objectForPredicate_ne_panic e p s

theorem c16_objectsForPredicate_no_panic (e p : Env) (s : String) :
    objectsForPredicate e p ≠ .panic s :=
  AW.objectsForPredicate_ne_panic e p s

theorem c16_optionalObjectForPredicate_no_panic (e p : Env) (s : String) :
    optionalObjectForPredicate e p ≠ .panic s :=
  AW.optionalObjectForPredicate_ne_panic e p s

theorem c16_proofContainsSet_no_panic {e : Env} (hi : Inv h e) (T : List Digest) (s : String) :
    proofContainsSet h e T ≠ .panic s := by
  rw [proofContainsSet_eq h T e hi.1 (Canon.shape e hi.2)]
  split <;> nofun

example : Inv toyHash sNode := sNode_inv

theorem c16_hasSignatureFromReturningMetadata_no_panic (key : Nat) (e : Env) (s : String) :
    hasSignatureFromReturningMetadata h V key e ≠ .panic s := by
  rw [SigL.hasSigMeta_eq]
  nofun

theorem c16_hasSignatureFrom_no_panic (key : Nat) (e : Env) (s : String) :
    hasSignatureFrom h V key e ≠ .panic s := by
  rw [SigL.hasSig_eq]
  nofun

theorem c16_hasSignaturesFromThreshold_no_panic (keys : List Nat) (threshold : Option Nat)
    (e : Env) (s : String) : hasSignaturesFromThreshold h V keys threshold e ≠ .panic s := by
  rw [SigL.threshold_eq h V e keys threshold _ fun k _ => SigL.hasSig_eq h V k e]
  nofun

/-- `add_signature_opt`: an `unwrap()` fires exactly when some metadata element is not a
legal assertion slot (the documented precondition "metadata is a list of assertions") -/
theorem c16_addSignature_panic_iff (e : Env) (sig : Cbor) (metadata : List Env) (outer : Env → Cbor) :
    (∃ p, addSignature h e sig metadata outer = .panic p) ↔ ∃ a ∈ metadata, a.slotOk = false := by
  have hadd : ∀ o s, addAssertionUnwrap h e (SigL.signedKV h) o ≠ .panic s := fun o =>
    Res.ne_panic_of_isOk (AW.addAssertionUnwrap_isOk h e _ o)
  cases metadata with
  | nil => exact ⟨fun ⟨p, hp⟩ => absurd hp (hadd _ p), fun ⟨_, ha, _⟩ => nomatch ha⟩
  | cons a l =>
    -- the metadata fold is `NP.unwrapFold`; the `add_assertion` after it returns an envelope
    rw [SigL.addSignature_cons,
      ← NP.unwrapFold_panic_iff h "signature_impl.rs:add_signature_opt:unwrap" _ (newLeaf h sig)]
    exact exists_congr fun p => Res.bind_eq_panic_iff fun m => hadd _

theorem c16_addSignature_no_panic (e : Env) (sig : Cbor) {metadata : List Env}
    (hm : ∀ a ∈ metadata, a.slotOk = true) (outer : Env → Cbor) (s : String) :
    addSignature h e sig metadata outer ≠ .panic s := by
  intro hp
  obtain ⟨a, ha, hs⟩ := (c16_addSignature_panic_iff h e sig metadata outer).1 ⟨s, hp⟩
  rw [hm a ha] at hs; cases hs

example : ∀ a ∈ [sA1, sA2], a.slotOk = true := by simp [sA_slotOk]

theorem c16_addSaltInstance_no_panic (e : Env) (salt : Bytes) (s : String) :
    addSaltInstance h e salt ≠ .panic s :=
  Res.ne_panic_of_isOk (AW.addAssertionUnwrap_isOk h e _ _) s

theorem c16_addSaltWithLen_no_panic (e : Env) (count : Nat) (draw : Nat → Bytes) (s : String) :
    addSaltWithLen h e count draw ≠ .panic s := by
  fun_cases addSaltWithLen h e count draw
  · exact Res.err_ne_panic _ s
  · exact c16_addSaltInstance_no_panic h e _ s

/-- `add_assertion_salted(p, o, salted)`: its `unwrap()` does not fire -/
theorem c16_addAssertionSalted_no_panic (e p o : Env) (salt : Option Bytes) (s : String) :
    addAssertionSalted h e p o salt ≠ .panic s := by
  rw [ExtL.addAssertionSalted_eq]
  exact c16_addAssertionEnvelope_no_panic h e _ s

theorem c16_addType_no_panic (e t : Env) (s : String) : addType h e t ≠ .panic s :=
  Res.ne_panic_of_isOk (AW.addAssertionUnwrap_isOk h e _ t) s

theorem c16_types_no_panic (e : Env) (s : String) : types h e ≠ .panic s :=
  c16_objectsForPredicate_no_panic e _ s

theorem c16_hasTypeEnvelope_no_panic (e t : Env) (s : String) : hasTypeEnvelope h e t ≠ .panic s := by
  rw [ExtL.hasTypeEnvelope_eq]
  exact Res.ok_ne_panic _ s

theorem c16_getType_no_panic (e : Env) (s : String) : getType h e ≠ .panic s :=
  ExtL.getType_ne_panic h e s

theorem c16_newAttachment_no_panic (payload : Env) (vendor : Bytes) (conformsTo : Option Bytes)
    (s : String) : newAttachment h payload vendor conformsTo ≠ .panic s := by
  rw [ExtL.newAttachment_eq]
  exact Res.ok_ne_panic _ s

/-- `add_attachment`: its `unwrap()` does not fire -/
theorem c16_addAttachment_no_panic (e payload : Env) (vendor : Bytes) (conformsTo : Option Bytes)
    (s : String) : addAttachment h e payload vendor conformsTo ≠ .panic s := by
  rw [ExtL.addAttachment_eq]
  exact c16_addAssertionEnvelope_no_panic h e _ s

theorem c16_attachmentPayload_no_panic (a : Env) (s : String) : attachmentPayload a ≠ .panic s := by
  fun_cases attachmentPayload a
  · exact c16_unwrap_no_panic _ s
  · exact Res.err_ne_panic _ s

theorem c16_attachmentVendor_no_panic (a : Env) (s : String) : attachmentVendor h a ≠ .panic s := by
  fun_cases attachmentVendor h a
  · exact ExtL.extractTextObjectForPredicate_ne_panic _ _ s
  · exact Res.err_ne_panic _ s

theorem c16_attachmentConformsTo_no_panic (a : Env) (s : String) :
    attachmentConformsTo h a ≠ .panic s := by
  fun_cases attachmentConformsTo h a
  · exact ExtL.extractOptionalTextObjectForPredicate_ne_panic _ _ s
  · exact Res.err_ne_panic _ s

theorem c16_validateAttachment_no_panic (a : Env) (s : String) : validateAttachment h a ≠ .panic s :=
  ExtL.validateAttachment_ne_panic h a s

theorem c16_attachmentsWith_no_panic (e : Env) (vendor conformsTo : Option Bytes) (s : String) :
    attachmentsWith h e vendor conformsTo ≠ .panic s :=
  ExtL.attachmentsWith_ne_panic h e vendor conformsTo s

theorem c16_attachmentWith_no_panic (e : Env) (vendor conformsTo : Option Bytes) (s : String) :
    attachmentWith h e vendor conformsTo ≠ .panic s := by
  refine Res.bind_ne_panic (c16_attachmentsWith_no_panic h e vendor conformsTo) (fun l _ s => ?_) s
  split <;> nofun

theorem c16_Expression_withParameter_no_panic (x : Expression) (p : Ident) (v : Env) (s : String) :
    Expression.withParameter h x p v ≠ .panic s := by
  obtain ⟨r, hr⟩ := AW.add_isOk h x.envelope (a := newAssertion h (newLeaf h (identCbor TAG_PARAMETER p)) v) rfl
  simp [Expression.withParameter, hr]

theorem c16_Expression_parse_no_panic (e : Env) (s : String) : Expression.parse e ≠ .panic s :=
  ExprL.expression_parse_noPanic e s

theorem c16_Request_toEnvelope_no_panic (r : Request) (s : String) :
    Request.toEnvelope h r ≠ .panic s := by
  rw [ExprL.request_toEnvelope_eq]
  exact Res.ok_ne_panic _ s

theorem c16_Request_parse_no_panic (e : Env) (expected : Option Ident) (s : String) :
    Request.parse h e expected ≠ .panic s :=
  (ExprL.request_parse_sat h e expected).ne_panic s

theorem c16_Response_toEnvelope_no_panic (r : Response) (s : String) :
    Response.toEnvelope h r ≠ .panic s := by
  rw [ExprL.response_toEnvelope_eq]
  exact Res.ok_ne_panic _ s

theorem c16_Response_parse_no_panic (e : Env) (s : String) : Response.parse h e ≠ .panic s :=
  (ExprL.response_parse_sat h e).ne_panic s

theorem c16_Event_toEnvelope_no_panic (ev : Event) (s : String) : Event.toEnvelope h ev ≠ .panic s := by
  rw [ExprL.event_toEnvelope_eq]
  exact Res.ok_ne_panic _ s

theorem c16_Event_parse_no_panic (e : Env) (s : String) : Event.parse h e ≠ .panic s :=
  (ExprL.event_parse_sat h e).ne_panic s

/-- one step of the operation language `Op` of C04; nothing is assumed of the step's arguments -/
theorem c16_applyOp_no_panic (hH : HashValid h) (o : Op) {e : Env} (hi : Inv h e) (s : String) :
    applyOp h A Z o e ≠ .panic s := by
  cases o with
  | addAssertion a => exact c16_addAssertionEnvelope_no_panic h e a s
  | removeAssertion t => exact c16_removeAssertion_no_panic h e t s
  | replaceAssertion a b => exact c16_replaceAssertion_no_panic h e a b s
  | replaceSubject x => exact c16_replaceSubject_no_panic h hi.2 x s
  | addAll as => exact c16_addAll_no_panic h e as s
  | assertionWithObject | assertionWithPredicate | wrap | subject | elide => exact Res.ok_ne_panic _ s
  | unwrap => exact c16_unwrap_no_panic e s
  | elideSet T rev act => exact c16_elideSet_no_panic h A Z hi hH T rev act s
  | compress => exact c16_compress_no_panic Z e s
  | compressSubject => exact c16_compressSubject_no_panic h Z hi s
  | encryptSubject k n => exact c16_encryptSubject_no_panic h A hi hH k n s
  | encryptWhole k n => exact c16_encryptWhole_no_panic h A hH k n e s
  | unelide x => exact c16_unelide_no_panic e x s
  | decodeBytes b => exact c16_decode_no_panic h b s
  | reencode => exact c16_decode_no_panic h (encode e) s
  | uncompress => exact c16_uncompress_no_panic h Z e s
  | uncompressSubject => exact c16_uncompressSubject_no_panic h Z hi.2 s
  | decryptSubject k => exact c16_decryptSubject_no_panic h A hi.2 k s
  | decryptWhole k => exact c16_decryptWhole_no_panic h A hi.2 k s

example : HashValid toyHash ∧ Inv toyHash sNode := ⟨toyHash_valid, sNode_inv⟩

/-- no step of a history of `Op`s panics; here the arguments must satisfy `Inv` as well -/
theorem c16_history_no_panic (hH : HashValid h) (ops : List Op) (e0 : Env) (hi : Inv h e0)
    (ha : ∀ o ∈ ops, ∀ a ∈ o.args, Inv h a) (s : String) :
    Res.panic s ∉ runHistory h A Z e0 ops := fun hm =>
  InvL.runHistory_forall h A Z (P := Inv h) (Q := fun o => ∀ a ∈ o.args, Inv h a) (R := (· ≠ .panic s))
    (applyOp_inv_all h A Z hH) (fun hi _ => c16_applyOp_no_panic h A Z hH _ hi s) ops e0 hi ha _ hm
    rfl

/-- the hypotheses hold of this history; all nine steps succeed (by `#eval`), but the last
conjunct states the first only -/
example :
    HashValid toyHash ∧ Inv toyHash sNode ∧
    (∀ o ∈ ([.wrap, .compress, .uncompress, .unwrap, .reencode, .encryptWhole [1] [2],
        .decryptWhole [1], .addAssertion sA3, .elideSet sTarget true .compress] : List Op),
      ∀ a ∈ o.args, Inv toyHash a) ∧
    Res.ok (wrap toyHash sNode) ∈ runHistory toyHash idAead idDeflate sNode
        [.wrap, .compress, .uncompress, .unwrap, .reencode, .encryptWhole [1] [2], .decryptWhole [1],
         .addAssertion sA3, .elideSet sTarget true .compress] :=
  ⟨toyHash_valid, sNode_inv, by
    simp only [List.forall_mem_cons, Op.args, List.not_mem_nil, false_imp_iff, implies_true,
      true_and, and_true, List.mem_singleton, forall_eq]
    exact sA3_inv, List.Mem.head _⟩

/-- closure form: no `Op` panics on a `Produced` envelope (what the constructors and `Op`s
yield; with `dec`, the decoding `Op`s too) -/
theorem c16_produced_no_panic (hH : HashValid h) {dec : Bool} {e : Env}
    (hp : Produced h A Z dec e) (o : Op) (s : String) : applyOp h A Z o e ≠ .panic s :=
  c16_applyOp_no_panic h A Z hH o (produced_inv_all h A Z hH hp) s

example : HashValid toyHash ∧ Produced toyHash idAead idDeflate true sA1 :=
  ⟨toyHash_valid,
   .op (.assertionWithObject (newLeaf toyHash (.uint 10))) (newKnownValue toyHash 1) sA1 (.knownValue 1)
    (by intro a ha; simp only [Op.args, List.mem_singleton] at ha; subst ha; exact .leaf _)
    (fun hf => by cases hf) rfl⟩

/-- a salted assertion: some assertion element of the result is a node, and the three lookups
return a value -/
example :
    (match addAssertionSalted toyHash sSubj (newKnownValue toyHash 1) (newLeaf toyHash (.uint 10))
        (some [1, 2, 3, 4, 5, 6, 7, 8]) with
      | .ok e => e.assertions.any Env.isNode &&
          (objectForPredicate e (newKnownValue toyHash 1)).isOk &&
          (objectsForPredicate e (newKnownValue toyHash 1)).isOk &&
          (optionalObjectForPredicate e (newKnownValue toyHash 1)).isOk
      | _ => false) = true := by decide +kernel

/-- envelopes with parts already compressed or encrypted: values or errors -/
example :
    (compressSubject toyHash idDeflate sNodeC).isOk = true ∧
    (uncompressSubject toyHash idDeflate sNodeC).isOk = true ∧
    (decryptSubject toyHash idAead [9] sNodeC).isPanic = false ∧
    (encryptSubject toyHash idAead [1] [2] sEnc).isPanic = false ∧
    (compress idDeflate sEnc).isPanic = false ∧
    (objectForPredicate sNodeC (newKnownValue toyHash 1)).isOk = true := by decide +kernel

end
end EnvVerif
