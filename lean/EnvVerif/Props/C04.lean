/-
  Props/C04.lean — C04: every envelope emitted is canonical and well-formed.
  Every constructor establishes `Canon` and every operation of `Op` preserves it (arguments assumed to
  satisfy the invariant), so every finite history yields `Inv` envelopes.  An operation that puts an
  elided / compressed placeholder for an element needs the element's digest to be 32 bytes; that
  follows from `WF` and the hypothesis `hH : ∀ b, (h.H b).Valid`.  Nothing is assumed about `Aead` /
  `Deflate`.  At the end: what satisfies the invariant encodes to a tree of the CDDL (`canon_grammar`,
  `inv_grammar`, `inv_taggedGrammar`; Lemmas/Grammar.lean).
-/
import EnvVerif.Props.C01
import EnvVerif.Lemmas.Grammar
namespace EnvVerif
open Env InvL

section
variable (h : Hash) (A : Aead) (Z : Deflate)

theorem newLeaf_canon (c : Cbor) : Canon (newLeaf h c) := trivial

theorem newKnownValue_canon (v : Nat) : Canon (newKnownValue h v) := trivial

theorem newAssertion_canon {p o : Env} (hp : Canon p) (ho : Canon o) : Canon (newAssertion h p o) :=
  ⟨hp, ho⟩
example : Canon (newAssertion toyHash sA1 sNode) := newAssertion_canon _ sA1_inv.2 sNode_inv.2

theorem newWrapped_canon {e : Env} (he : Canon e) : Canon (newWrapped h e) := he
example : Canon (newWrapped toyHash sNode) := newWrapped_canon _ sNode_inv.2

theorem newElided_canon {d : Digest} (hd : d.Valid) : Canon (newElided d) := hd
example : Canon (newElided sNode.digest) := newElided_canon (toyHash_valid _)

theorem mkNode_canon_of {s : Env} {as : List Env} (hs : Canon s) (has : ∀ a ∈ as, Canon a)
    (hne : as ≠ []) (hd : as.Pairwise (fun a b => a.digest ≠ b.digest))
    (hslot : ∀ a ∈ as, a.slotOk = true) : Canon (mkNode h s as) :=
  Canon_mkNode h hs has hne hd hslot
example : Canon (mkNode toyHash sSubj [sA2, sA1]) :=
  mkNode_canon_of _ sSubj_inv.2 (by simp [sA1_inv.2, sA2_inv.2]) (by simp) (AscDigests.distinct sNode_asc)
    (by simp [sA_slotOk])

theorem newNodeUnchecked_canon {s r : Env} {as : List Env} (hs : Canon s) (has : ∀ a ∈ as, Canon a)
    (hd : as.Pairwise (fun a b => a.digest ≠ b.digest)) (hslot : ∀ a ∈ as, a.slotOk = true)
    (hr : newNodeUnchecked h s as = .ok r) : Canon r := by
  obtain ⟨hne, rfl⟩ := (newNodeUnchecked_eq_ok h).1 hr
  exact mkNode_canon_of h hs has hne hd hslot
example : ∃ r, newNodeUnchecked toyHash sSubj [sA2, sA1] = .ok r ∧ Canon r :=
  ⟨_, rfl, newNodeUnchecked_canon _ (as := [sA2, sA1]) sSubj_inv.2 (by simp [sA1_inv.2, sA2_inv.2])
    (AscDigests.distinct sNode_asc) (by simp [sA_slotOk]) rfl⟩

/-- `newNode` checks the slots itself -/
theorem newNode_canon {s r : Env} {as : List Env} (hs : Canon s) (has : ∀ a ∈ as, Canon a)
    (hd : as.Pairwise (fun a b => a.digest ≠ b.digest)) (hr : newNode h s as = .ok r) : Canon r := by
  obtain ⟨hslot, hne, rfl⟩ := (newNode_eq_ok h).1 hr
  exact mkNode_canon_of h hs has hne hd hslot
example : ∃ r, newNode toyHash sSubj [sA2, sA1] = .ok r ∧ Canon r := by
  have hr := (newNode_eq_ok toyHash (s := sSubj) (as := [sA2, sA1])).2
    ⟨by simp [sA_slotOk], by simp, rfl⟩
  exact ⟨_, hr, newNode_canon _ sSubj_inv.2 (by simp [sA1_inv.2, sA2_inv.2]) (AscDigests.distinct sNode_asc) hr⟩

theorem newLeaf_inv (c : Cbor) : Inv h (newLeaf h c) := Inv.newLeaf h c

theorem newKnownValue_inv (v : Nat) : Inv h (newKnownValue h v) := Inv.newKnownValue h v

theorem newAssertion_inv {p o : Env} (hp : Inv h p) (ho : Inv h o) : Inv h (newAssertion h p o) :=
  hp.newAssertion ho
example : Inv toyHash (newAssertion toyHash sA1 sNode) := newAssertion_inv _ sA1_inv sNode_inv

theorem newWrapped_inv {e : Env} (he : Inv h e) : Inv h (newWrapped h e) := he.newWrapped
example : Inv toyHash (newWrapped toyHash sNode) := newWrapped_inv _ sNode_inv

theorem newElided_inv {d : Digest} (hd : d.Valid) : Inv h (newElided d) := .newElided h hd
example : Inv toyHash (newElided sNode.digest) := newElided_inv _ (toyHash_valid _)

theorem mkNode_inv {s : Env} {as : List Env} (hs : Inv h s) (has : ∀ a ∈ as, Inv h a)
    (hne : as ≠ []) (hd : as.Pairwise (fun a b => a.digest ≠ b.digest))
    (hslot : ∀ a ∈ as, a.slotOk = true) : Inv h (mkNode h s as) :=
  hs.mkNode has hne hd hslot
example : Inv toyHash (mkNode toyHash sSubj [sA2, sA1]) :=
  mkNode_inv _ sSubj_inv (by simp [sA1_inv, sA2_inv]) (by simp) (AscDigests.distinct sNode_asc) (by simp [sA_slotOk])

theorem newNodeUnchecked_inv {s r : Env} {as : List Env} (hs : Inv h s) (has : ∀ a ∈ as, Inv h a)
    (hd : as.Pairwise (fun a b => a.digest ≠ b.digest)) (hslot : ∀ a ∈ as, a.slotOk = true)
    (hr : newNodeUnchecked h s as = .ok r) : Inv h r :=
  ⟨newNodeUnchecked_wf h hs.1 (fun a ha => (has a ha).1) hr,
   newNodeUnchecked_canon h hs.2 (fun a ha => (has a ha).2) hd hslot hr⟩
example : ∃ r, newNodeUnchecked toyHash sSubj [sA2, sA1] = .ok r ∧ Inv toyHash r :=
  ⟨_, rfl, newNodeUnchecked_inv _ (as := [sA2, sA1]) sSubj_inv (by simp [sA1_inv, sA2_inv])
    (AscDigests.distinct sNode_asc) (by simp [sA_slotOk]) rfl⟩

theorem newNode_inv {s r : Env} {as : List Env} (hs : Inv h s) (has : ∀ a ∈ as, Inv h a)
    (hd : as.Pairwise (fun a b => a.digest ≠ b.digest)) (hr : newNode h s as = .ok r) : Inv h r := by
  obtain ⟨hslot, hne, rfl⟩ := (newNode_eq_ok h).1 hr
  exact hs.mkNode has hne hd hslot
example : ∃ r, newNode toyHash sSubj [sA2, sA1] = .ok r ∧ Inv toyHash r := by
  have hr := (newNode_eq_ok toyHash (s := sSubj) (as := [sA2, sA1])).2
    ⟨by simp [sA_slotOk], by simp, rfl⟩
  exact ⟨_, hr, newNode_inv _ sSubj_inv (by simp [sA1_inv, sA2_inv]) (AscDigests.distinct sNode_asc) hr⟩

theorem addAssertionEnvelope_canon {e a r : Env} (he : Canon e) (ha : Canon a)
    (hr : addAssertionEnvelope h e a = .ok r) : Canon r := by
  rw [AW.add_ok_eq hr]
  split
  · exact he
  · rename_i hnew
    exact Canon_mkNode h he.subject
      (List.forall_mem_append.2 ⟨he.assertions, List.forall_mem_singleton.2 ha⟩)
      (List.append_ne_nil_of_right_ne_nil _ (List.cons_ne_nil a []))
      (AW.distinct_snoc he.asc (AW.any_digest_false_iff.1 (Bool.eq_false_iff.2 hnew)))
      (List.forall_mem_append.2 ⟨he.slotOk, List.forall_mem_singleton.2 (AW.add_slotOk hr)⟩)
example : ∃ r, addAssertionEnvelope toyHash sNode sA3 = .ok r ∧ Canon r :=
  Res.exists_ok_and (AW.add_isOk toyHash sNode sA_slotOk.2.2)
    (addAssertionEnvelope_canon _ sNode_inv.2 sA3_inv.2)
/-- non-node receiver -/
example : ∃ r, addAssertionEnvelope toyHash sSubj sA3 = .ok r ∧ Canon r :=
  Res.exists_ok_and (AW.add_isOk toyHash sSubj sA_slotOk.2.2)
    (addAssertionEnvelope_canon _ sSubj_inv.2 sA3_inv.2)

theorem removeAssertion_canon {e t r : Env} (he : Canon e) (hr : removeAssertion h e t = .ok r) :
    Canon r := by
  rw [AW.removeAssertion_eq] at hr
  cases hr
  split
  · exact he
  · rename_i i _
    have hasc : AscDigests (e.assertions.eraseIdx i) := he.asc.sublist (List.eraseIdx_sublist ..)
    rw [sortByDigest_of_asc hasc]
    exact AW.Canon_rebuild h he.subject (fun x hx => he.assertions x (List.mem_of_mem_eraseIdx hx)) hasc
      (fun x hx => he.slotOk x (List.mem_of_mem_eraseIdx hx))
example : ∃ r, removeAssertion toyHash sNode sA1 = .ok r ∧ Canon r :=
  Res.exists_ok_and ⟨_, AW.removeAssertion_eq toyHash sNode sA1⟩ (removeAssertion_canon _ sNode_inv.2)

theorem replaceAssertion_canon {e a b r : Env} (he : Canon e) (hb : Canon b)
    (hr : replaceAssertion h e a b = .ok r) : Canon r := by
  obtain ⟨e', h1, h2⟩ := Res.bind_eq_ok.1 hr
  exact addAssertionEnvelope_canon h (removeAssertion_canon h he h1) hb h2
example : ∃ r, replaceAssertion toyHash sNode sA1 sA3 = .ok r ∧ Canon r :=
  Res.exists_ok_and (replaceAssertion_isOk toyHash sNode sA1 sA_slotOk.2.2)
    (replaceAssertion_canon _ sNode_inv.2 sA3_inv.2)

theorem addAll_canon {e r : Env} {as : List Env} (he : Canon e) (has : ∀ a ∈ as, Canon a)
    (hr : addAll h e as = .ok r) : Canon r :=
  Res.foldl_bind_inv (P := Canon) (Q := Canon) (fun x a => addAssertionEnvelope h x a)
    (fun _ _ _ hx ha hs => addAssertionEnvelope_canon h hx ha hs) as e r he has hr
example : ∃ r, addAll toyHash sNode [sA3, sA1] = .ok r ∧ Canon r :=
  Res.exists_ok_and (addAll_isOk toyHash [sA3, sA1] sNode (by simp [sA_slotOk]))
    (addAll_canon _ sNode_inv.2 (by simp [sA3_inv.2, sA1_inv.2]))

theorem replaceSubject_canon {e s r : Env} (he : Canon e) (hs : Canon s)
    (hr : replaceSubject h e s = .ok r) : Canon r :=
  addAll_canon h hs he.assertions (replaceSubject_ok hr)
example : ∃ r, replaceSubject toyHash sNode sA3 = .ok r ∧ Canon r :=
  Res.exists_ok_and (replaceSubject_isOk toyHash sA3 sNode_inv.2.slotOk)
    (replaceSubject_canon _ sNode_inv.2 sA3_inv.2)

theorem wrap_canon {e : Env} (he : Canon e) : Canon (wrap h e) := newWrapped_canon h he
example : Canon (wrap toyHash sNode) := wrap_canon _ sNode_inv.2

theorem unwrap_canon {e r : Env} (he : Canon e) (hr : unwrap e = .ok r) : Canon r := by
  obtain ⟨d, hs⟩ := unwrap_eq_ok.1 hr
  exact (Canon_wrapped ..).1 (hs ▸ he.subject)
example : ∃ r, unwrap (wrap toyHash sNode) = .ok r ∧ Canon r :=
  ⟨sNode, rfl, unwrap_canon (wrap_canon toyHash sNode_inv.2) rfl⟩

theorem subject_canon {e : Env} (he : Canon e) : Canon e.subject := he.subject
example : Canon sNode.subject := subject_canon sNode_inv.2

theorem elide_canon (hH : ∀ b, (h.H b).Valid) {e : Env} (hi : Inv h e) : Canon (elide e) :=
  elide_eq e ▸ hi.digest_valid hH
example : Canon (elide sNode) := elide_canon _ toyHash_valid sNode_inv

/-- that assertion slots are kept is part of the induction: a rebuilt node needs it of its assertions -/
theorem elideSet_canon (hH : ∀ b, (h.H b).Valid) {T : Digest → Bool} {rev : Bool} {act : Action}
    {e r : Env} (hi : Inv h e) (hr : elideSet h A Z T rev act e = .ok r) : Canon r := by
  refine (elideSet_ok_rec h A Z T rev act
    (P := fun e r => Inv h e → Canon r ∧ (e.slotOk = true → r.slotOk = true))
    ?_ (fun _ hi => ⟨hi.2, id⟩) ?_ ?_ ?_ hr hi).1
  · intro e r _ ho hi
    rcases obscure_ok ho with rfl | ⟨m, d, rfl, hm⟩ | ⟨c, rfl⟩ | ⟨rfl, ho⟩
    · exact ⟨hi.digest_valid hH, fun _ => rfl⟩
    · exact ⟨optDigest_valid hm, fun _ => rfl⟩
    · exact ⟨hi.digest_valid hH, fun _ => rfl⟩
    · exact ⟨hi.2, id⟩
  · intro s as d s' as' hs _ has hne hi
    have hs' := hs hi.subject
    have key : ∀ a' ∈ as', Canon a' ∧ a'.slotOk = true := by
      intro a' ha'
      obtain ⟨a, hm, hP, _⟩ := has.forall_mem_right a' ha'
      have := hP (hi.assertions hm)
      exact ⟨this.1, this.2 (hi.2.slotOk a hm)⟩
    exact ⟨Canon_mkNode h hs'.1 (fun a ha => (key a ha).1) hne
      (AscDigests.distinct (hi.2.asc.of_map_eq (has.map_eq fun _ _ hx => hx.2)))
      (fun a ha => (key a ha).2), hs'.2⟩
  · intro e d e' he _ hi; exact ⟨(he (hi.children List.mem_cons_self)).1, nofun⟩
  · intro p o d p' o' hp ho _ hi
    exact ⟨⟨(hp (hi.children List.mem_cons_self)).1,
      (ho (hi.children (List.mem_cons_of_mem _ List.mem_cons_self))).1⟩, fun _ => rfl⟩
example : ∃ r, elideSet toyHash idAead idDeflate sTarget false .elide sNode = .ok r ∧ Canon r :=
  Res.exists_ok_and sElideSet_ok.1 (elideSet_canon _ _ _ toyHash_valid sNode_inv)
example : ∃ r, elideSet toyHash idAead idDeflate sTarget false .compress sNode = .ok r ∧ Canon r :=
  Res.exists_ok_and sElideSet_ok.2.1 (elideSet_canon _ _ _ toyHash_valid sNode_inv)
example : ∃ r, elideSet toyHash idAead idDeflate sTarget false sEncAct sNode = .ok r ∧ Canon r :=
  Res.exists_ok_and sElideSet_ok.2.2.1 (elideSet_canon _ _ _ toyHash_valid sNode_inv)
example : ∃ r, elideSet toyHash idAead idDeflate sTarget true .elide sNode = .ok r ∧ Canon r :=
  Res.exists_ok_and sElideSet_ok.2.2.2 (elideSet_canon _ _ _ toyHash_valid sNode_inv)

theorem compress_canon (hH : ∀ b, (h.H b).Valid) {e r : Env} (hi : Inv h e)
    (hr : compress Z e = .ok r) : Canon r := by
  obtain ⟨c, rfl⟩ := compress_ok Z hr
  exact hi.digest_valid hH
example : ∃ r, compress idDeflate sNode = .ok r ∧ Canon r :=
  ⟨_, rfl, compress_canon toyHash _ toyHash_valid (e := sNode) sNode_inv rfl⟩

theorem compressSubject_canon (hH : ∀ b, (h.H b).Valid) {e r : Env} (hi : Inv h e)
    (hr : compressSubject h Z e = .ok r) : Canon r := by
  obtain ⟨c, hc, rfl⟩ := (compressSubject_eq_ok h Z hi).1 hr
  exact (setSubject_inv h hi ⟨compress_wf h Z hc, compress_canon h Z hH hi.subject hc⟩
    (compress_ok_digest Z hc)).2
example : ∃ r, compressSubject toyHash idDeflate sNode = .ok r ∧ Canon r := by
  have hr := (compressSubject_eq_ok toyHash idDeflate sNode_inv).2 ⟨_, rfl, rfl⟩
  exact ⟨_, hr, compressSubject_canon _ _ toyHash_valid sNode_inv hr⟩

theorem encryptSubject_canon {key nonce : Bytes} {e r : Env} (he : Canon e)
    (hr : encryptSubject h A key nonce e = .ok r) : Canon r := by
  obtain ⟨m, d, hm, hw⟩ := encryptSubject_withSubject hr
  exact withSubject_canon he (s := .encrypted m d) (optDigest_valid hm) hw
example : ∃ r, encryptSubject toyHash idAead [1] [2] sNode = .ok r ∧ Canon r :=
  Res.exists_ok_and sEncryptSubject_ok (encryptSubject_canon _ _ sNode_inv.2)

theorem encryptWhole_canon {key nonce : Bytes} {e r : Env} (he : Canon e)
    (hr : encryptWhole h A key nonce e = .ok r) : Canon r :=
  encryptSubject_canon h A (wrap_canon h he) ((encryptWhole_eq_ok h A).1 hr)
example : ∃ r, encryptWhole toyHash idAead [1] [2] sNode = .ok r ∧ Canon r :=
  Res.exists_ok_and sEncryptWhole_ok (encryptWhole_canon _ _ sNode_inv.2)

theorem unelide_canon {p e r : Env} (he : Canon e) (hr : unelide p e = .ok r) : Canon r :=
  (unelide_eq_ok.1 hr).2 ▸ he
example : ∃ r, unelide (elide sNode) sNode = .ok r ∧ Canon r :=
  ⟨sNode, unelide_eq_ok.2 ⟨rfl, rfl⟩, sNode_inv.2⟩

/-! what a hit element is replaced with, per action -/

theorem obscure_elide_shape {e r : Env} (hr : obscure A Z .elide e = .ok r) :
    r = .elided e.digest := by
  rw [obscure_elide] at hr; cases hr; rfl
example : ∃ r, obscure idAead idDeflate .elide sA1 = .ok r := ⟨_, rfl⟩

theorem obscure_encrypt_shape {key : Bytes} {nonce : Digest → Bytes} {e r : Env}
    (hr : obscure A Z (.encrypt key nonce) e = .ok r) :
    ∃ m d, r = .encrypted m d ∧ m.optDigest = some d :=
  obscure_encrypt_ok hr
example : ∃ r, obscure idAead idDeflate (.encrypt [1] (fun _ => [2])) sA1 = .ok r :=
  obscure_isOk idAead idDeflate (act := .encrypt [1] fun _ => [2]) (aadOk_of_valid (toyHash_valid _))

theorem obscure_compress_shape {e r : Env} (hr : obscure A Z .compress e = .ok r) :
    (∃ c, r = .compressed c e.digest) ∨ (r = e ∧ e.isObscured = true) :=
  obscure_compress_ok hr
example : ∃ r, obscure idAead idDeflate .compress sA1 = .ok r := ⟨_, rfl⟩

/-! The decoding operations.  This part rests on the strict-ordering check (`ascAdj`) in the `.array`
branch of `envOfCbor`; everything above is independent of the decoder.  No hypothesis on the hash: a
decoded elided / encrypted / compressed digest is 32 bytes by construction. -/

theorem decodeEncrypted_canon {item : Cbor} {e : Env} (he : decodeEncrypted item = .ok e) : Canon e := by
  obtain ⟨m, d, rfl, _, hd, _⟩ := (decodeEncrypted_sat item).of_ok he
  exact optDigest_valid hd
example : ∃ e, decodeEncrypted (encMsgCbor sMsg) = .ok e ∧ Canon e :=
  Res.exists_ok_and sDecodeParts_ok.1 decodeEncrypted_canon

theorem decodeCompressed_canon {item : Cbor} {e : Env} (he : decodeCompressed item = .ok e) : Canon e := by
  obtain ⟨c, d, rfl, _, hv, _⟩ := (decodeCompressed_sat item).of_ok he
  exact hv
example : ∃ e, decodeCompressed (compMsgCbor (compressedOf idDeflate (encode sA3)) sA3.digest) = .ok e ∧
    Canon e :=
  Res.exists_ok_and sDecodeParts_ok.2.1 decodeCompressed_canon

theorem envOfCbor_canon (c : Cbor) (e : Env) (he : envOfCbor h c = .ok e) : Canon e :=
  ((envOfCbor_sat h c).of_ok he).2.2.1

theorem envOfCborList_canon : (cs : List Cbor) → (es : List Env) → envOfCborList h cs = .ok es →
    CanonList es :=
  fun cs es he => (CanonList_iff es).2 ((envOfCborList_sat h cs).of_ok he).2.2.1
example : ∃ e, envOfCbor toyHash (cborOf sA3) = .ok e ∧ Canon e :=
  Res.exists_ok_and sDecodeParts_ok.2.2.1 (envOfCbor_canon _ _ _)

theorem decode_canon {b : Bytes} {e : Env} (he : decode h b = .ok e) : Canon e := (decode_inv he).2
example : ∃ r, decode toyHash (encode sA3) = .ok r ∧ Canon r :=
  Res.exists_ok_and sDecode_ok (decode_canon _)

theorem uncompress_canon {e r : Env} (hr : uncompress h Z e = .ok r) : Canon r := (uncompress_inv hr).2
example : ∃ r, uncompress toyHash idDeflate sComp = .ok r ∧ Canon r :=
  Res.exists_ok_and sUncompress_ok (uncompress_canon _ _)

theorem uncompressSubject_canon {e r : Env} (he : Canon e) (hr : uncompressSubject h Z e = .ok r) :
    Canon r := by
  obtain rfl | ⟨s, hs, hw⟩ := uncompressSubject_withSubject hr
  · exact he
  · exact withSubject_canon he hs.2 hw
example : ∃ r, uncompressSubject toyHash idDeflate sNodeC = .ok r ∧ Canon r :=
  Res.exists_ok_and sUncompressSubject_ok (uncompressSubject_canon _ _ sNodeC_inv.2)

theorem decryptSubject_canon {key : Bytes} {e r : Env} (he : Canon e)
    (hr : decryptSubject h A key e = .ok r) : Canon r := by
  obtain ⟨s, hs, hw⟩ := decryptSubject_withSubject hr
  exact withSubject_canon he hs.2 hw
example : ∃ r, decryptSubject toyHash idAead [1] sEnc = .ok r ∧ Canon r :=
  Res.exists_ok_and sDecryptSubject_ok (decryptSubject_canon _ _ sEnc_inv.2)

theorem decryptWhole_canon {key : Bytes} {e r : Env} (he : Canon e)
    (hr : decryptWhole h A key e = .ok r) : Canon r := by
  obtain ⟨x, h1, h2⟩ := Res.bind_eq_ok.1 hr
  exact unwrap_canon (decryptSubject_canon h A he h1) h2
example : ∃ r, decryptWhole toyHash idAead [1] sEncW = .ok r ∧ Canon r :=
  Res.exists_ok_and sDecryptWhole_ok (decryptWhole_canon _ _ sEncW_inv.2)

theorem applyOp_canon (hH : ∀ b, (h.H b).Valid) {o : Op} {e r : Env} (he : Inv h e)
    (ha : ∀ a ∈ o.args, Inv h a) (hr : applyOp h A Z o e = .ok r) : Canon r := by
  -- `applyOp` is unfolded in `hr` first for the reason given at `applyOp_wf`
  cases o <;> simp only [applyOp] at hr
  case addAssertion a => exact addAssertionEnvelope_canon h he.2 (ha a (.head _)).2 hr
  case removeAssertion t => exact removeAssertion_canon h he.2 hr
  case replaceAssertion a b => exact replaceAssertion_canon h he.2 (ha b (.tail _ (.head _))).2 hr
  case replaceSubject s => exact replaceSubject_canon h he.2 (ha s (.head _)).2 hr
  case addAll as => exact addAll_canon h he.2 (fun a hm => (ha a hm).2) hr
  case assertionWithObject o => cases hr; exact newAssertion_canon h he.2 (ha o (.head _)).2
  case assertionWithPredicate p => cases hr; exact newAssertion_canon h (ha p (.head _)).2 he.2
  case wrap => cases hr; exact he.2
  case unwrap => exact unwrap_canon he.2 hr
  case subject => cases hr; exact he.2.subject
  case elide => cases hr; exact elide_canon h hH he
  case elideSet T rev act => exact elideSet_canon h A Z hH he hr
  case compress => exact compress_canon h Z hH he hr
  case compressSubject => exact compressSubject_canon h Z hH he hr
  case encryptSubject key nonce => exact encryptSubject_canon h A he.2 hr
  case encryptWhole key nonce => exact encryptWhole_canon h A he.2 hr
  case unelide o => exact unelide_canon (ha o (.head _)).2 hr
  case decodeBytes b => exact decode_canon h hr
  case reencode => exact decode_canon h hr
  case uncompress => exact uncompress_canon h Z hr
  case uncompressSubject => exact uncompressSubject_canon h Z he.2 hr
  case decryptSubject key => exact decryptSubject_canon h A he.2 hr
  case decryptWhole key => exact decryptWhole_canon h A he.2 hr

theorem applyOp_inv_all (hH : ∀ b, (h.H b).Valid) {o : Op} {e r : Env} (he : Inv h e)
    (ha : ∀ a ∈ o.args, Inv h a) (hr : applyOp h A Z o e = .ok r) : Inv h r :=
  ⟨applyOp_wf h A Z he.1 (fun a hm => (ha a hm).1) hr, applyOp_canon h A Z hH he ha hr⟩
example : ∃ r, applyOp toyHash idAead idDeflate .uncompressSubject sNodeC = .ok r ∧ Inv toyHash r :=
  Res.exists_ok_and sUncompressSubject_ok
    (applyOp_inv_all toyHash idAead idDeflate toyHash_valid (o := .uncompressSubject) sNodeC_inv nofun)

theorem history_inv_all (hH : ∀ b, (h.H b).Valid) (ops : List Op) : ∀ (e0 : Env), Inv h e0 →
    (∀ o ∈ ops, ∀ a ∈ o.args, Inv h a) →
    ∀ r, Res.ok r ∈ runHistory h A Z e0 ops → Inv h r :=
  runHistory_ok h A Z (P := Inv h) (Q := fun o => ∀ a ∈ o.args, Inv h a)
    (applyOp_inv_all h A Z hH) ops
/-- decoding steps included; only the first step is shown to produce a result -/
example :
    (∀ r, Res.ok r ∈ runHistory toyHash idAead idDeflate sNode
        [.wrap, .compress, .uncompress, .unwrap, .reencode, .encryptWhole [1] [2], .decryptWhole [1],
         .addAssertion sA3, .elideSet sTarget true .compress] →
      Inv toyHash r) ∧
    Res.ok (wrap toyHash sNode) ∈ runHistory toyHash idAead idDeflate sNode
        [.wrap, .compress, .uncompress, .unwrap, .reencode, .encryptWhole [1] [2], .decryptWhole [1],
         .addAssertion sA3, .elideSet sTarget true .compress] :=
  ⟨history_inv_all _ _ _ toyHash_valid _ sNode sNode_inv
      (forall_args_of_flatMap (List.forall_mem_singleton.2 sA3_inv)),
   runHistory_head _ _ _ rfl⟩

theorem produced_inv_all (hH : ∀ b, (h.H b).Valid) {dec : Bool} {e : Env}
    (hp : Produced h A Z dec e) : Inv h e := by
  induction hp with
  | leaf c => exact newLeaf_inv h c
  | knownValue v => exact newKnownValue_inv h v
  | elided d hd => exact newElided_inv h hd
  | op o e r _ _ _ hr ihe iha => exact applyOp_inv_all h A Z hH ihe iha hr
example : Produced toyHash idAead idDeflate true sA1 :=
  .op (.assertionWithObject (newLeaf toyHash (.uint 10))) (newKnownValue toyHash 1) sA1 (.knownValue 1)
    (List.forall_mem_singleton.2 (.leaf _))
    (fun hf => by cases hf) rfl

/-! the same for the non-decoding operations: special cases of the above, the restriction is not needed -/

theorem applyOp_inv (hH : ∀ b, (h.H b).Valid) {o : Op} {e r : Env} (he : Inv h e)
    (ha : ∀ a ∈ o.args, Inv h a) (hd : o.decoding = false) (hr : applyOp h A Z o e = .ok r) :
    Inv h r :=
  applyOp_inv_all h A Z hH he ha hr
example : ∃ r, applyOp toyHash idAead idDeflate (.elideSet sTarget false .elide) sNode = .ok r ∧
    Inv toyHash r :=
  Res.exists_ok_and sElideSet_ok.1
    (applyOp_inv toyHash idAead idDeflate toyHash_valid (o := .elideSet sTarget false .elide)
      sNode_inv nofun rfl)

theorem history_inv (hH : ∀ b, (h.H b).Valid) (ops : List Op) : ∀ (e0 : Env), Inv h e0 →
    (∀ o ∈ ops, ∀ a ∈ o.args, Inv h a) → (∀ o ∈ ops, o.decoding = false) →
    ∀ r, Res.ok r ∈ runHistory h A Z e0 ops → Inv h r :=
  fun e0 he ha _ => history_inv_all h A Z hH ops e0 he ha
/-- the history stops with an error at its fourth step (`.unelide sNode`); only the first step is
shown to produce a result -/
example :
    (∀ r, Res.ok r ∈ runHistory toyHash idAead idDeflate sNode
        [.wrap, .compress, .elide, .unelide sNode, .addAssertion sA3, .removeAssertion sA1,
         .replaceSubject sA2, .elideSet sTarget false sEncAct] →
      Inv toyHash r) ∧
    Res.ok (wrap toyHash sNode) ∈ runHistory toyHash idAead idDeflate sNode
        [.wrap, .compress, .elide, .unelide sNode, .addAssertion sA3, .removeAssertion sA1,
         .replaceSubject sA2, .elideSet sTarget false sEncAct] :=
  ⟨history_inv _ _ _ toyHash_valid _ sNode sNode_inv
      (forall_args_of_flatMap (List.forall_mem_cons.2 ⟨sNode_inv, List.forall_mem_cons.2 ⟨sA3_inv,
        List.forall_mem_cons.2 ⟨sA1_inv, List.forall_mem_singleton.2 sA2_inv⟩⟩⟩))
      (by decide),
   runHistory_head _ _ _ rfl⟩

theorem produced_inv (hH : ∀ b, (h.H b).Valid) {e : Env} (hp : Produced h A Z false e) : Inv h e :=
  produced_inv_all h A Z hH hp
example : Produced toyHash idAead idDeflate false sA1 :=
  .op (.assertionWithObject (newLeaf toyHash (.uint 10))) (newKnownValue toyHash 1) sA1 (.knownValue 1)
    (List.forall_mem_singleton.2 (.leaf _))
    (fun _ => rfl) rfl

theorem slotOk_shape (e : Env) (hs : e.slotOk = true) : SlotShape (cborOf e) := by
  induction e using Env.induct with
  | hnode s as d ihs _ => simp only [cborOf]; exact .node _ _ (ihs (by simpa using hs))
  | hassertion p o d => simp only [cborOf]; exact .assertion _
  | helided d => simp only [cborOf]; exact .elided _
  | hencrypted m d => simp only [cborOf, TAG_ENCRYPTED]; exact .encrypted _
  | hcompressed c d => simp only [cborOf, TAG_COMPRESSED]; exact .compressed _
  | _ => simp at hs
example : SlotShape (cborOf sA3) := slotOk_shape sA3 sA_slotOk.2.2

theorem canon_grammar (e : Env) (hc : Canon e) : Grammar (cborOf e) := by
  induction e using Env.induct with
  | hnode s as d ihs ihas =>
    simp only [cborOf, cborOfList_eq_map]
    refine .node _ _ (ihs hc.subject) (by simpa using hc.assertions_ne_nil) ?_ ?_ <;>
      (intro c hcm; obtain ⟨a, ha, rfl⟩ := List.mem_map.1 hcm)
    · exact ihas a ha (hc.assertions a ha)
    · exact slotOk_shape a (hc.slotOk a ha)
  | hleaf c d => simp only [cborOf, TAG_LEAF]; exact .leaf _
  | hwrapped e d ih => simp only [cborOf, TAG_ENVELOPE]; exact .wrapped _ (ih hc)
  | hassertion p o d ihp iho => simp only [cborOf]; exact .assertion _ _ (ihp hc.1) (iho hc.2)
  | helided d => simp only [cborOf]; exact .elided _ d.bytes_length
  | hknownValue v d => simp only [cborOf]; exact .knownValue _
  | hencrypted m d =>
    simp only [cborOf, TAG_ENCRYPTED, encMsgCbor]
    split
    · exact .encrypted3 _ _ _
    · exact .encrypted4 _ _ _ _
  | hcompressed c d =>
    simp only [cborOf, TAG_COMPRESSED, compMsgCbor, digestCbor, TAG_DIGEST]
    exact .compressed _ _ _ _ d.bytes_length

theorem canon_grammarList : (as : List Env) → CanonList as → ∀ c ∈ cborOfList as, Grammar c := by
  intro as hc c hcm
  rw [cborOfList_eq_map] at hcm
  obtain ⟨a, ha, rfl⟩ := List.mem_map.1 hcm
  exact canon_grammar a ((CanonList_iff as).1 hc a ha)

theorem inv_grammar {e : Env} (hi : Inv h e) : Grammar (cborOf e) := canon_grammar e hi.2
example : Grammar (cborOf sNode) := inv_grammar toyHash sNode_inv

theorem inv_taggedGrammar {e : Env} (hi : Inv h e) : TaggedGrammar (taggedCborOf e) := by
  simp only [taggedCborOf, TAG_ENVELOPE, TaggedGrammar]; exact inv_grammar h hi
example : TaggedGrammar (taggedCborOf sNodeC) := inv_taggedGrammar toyHash sNodeC_inv

/-- "encrypted elements carry a digest": a `WF` encrypted element has a non-empty `aad`
(it decodes to the declared digest), so it serialises to the 4-element form -/
theorem encrypted_carries_digest {m : EncMsg} {d : Digest} (hw : WF h (.encrypted m d)) :
    cborOf (.encrypted m d) =
      .tagged 40002 (.array [.bytes m.ciphertext, .bytes m.nonce, .bytes m.auth, .bytes m.aad]) ∧
    m.optDigest = some d ∧ d.Valid := by
  simp only [WF_encrypted] at hw
  refine ⟨?_, hw, optDigest_valid hw⟩
  have hne : m.aad ≠ [] := fun hnil => by
    rw [optDigest_of_aad_nil hnil] at hw
    cases hw
  rw [cborOf, encMsgCbor_of_aad hne]
  rfl
example : WF toyHash (.encrypted (encryptWithDigest idAead [1] [2] (encode sA3) sA3.digest) sA3.digest) :=
  sEnc_inv.1

theorem removeLast_collapses (s a t : Env) (d : Digest) (ht : t.digest = a.digest) :
    removeAssertion h (.node s [a] d) t = .ok s := by
  simp [removeAssertion, Env.assertions, findDigestIdx, ht, Env.subject]
example : removeAssertion toyHash (mkNode toyHash sSubj [sA1]) sA1 = .ok sSubj := by
  rw [mkNode_of_asc toyHash (by simp [AscDigests])]
  exact removeLast_collapses _ sSubj sA1 sA1 _ rfl

theorem addDuplicate_ignored (s a : Env) (as : List Env) (d : Digest) (hs : a.slotOk = true)
    (hdup : ∃ x ∈ as, x.digest = a.digest) :
    addAssertionEnvelope h (.node s as d) a = .ok (.node s as d) :=
  AW.add_eq_of_present h _ hs hdup
example : addAssertionEnvelope toyHash sNode sA1 = .ok sNode :=
  addDuplicate_ignored _ sSubj sA1 [sA2, sA1] _ sA_slotOk.1 ⟨sA1, by simp, rfl⟩

theorem replaceSubject_resorts {e s r : Env} (he : Canon e) (hs : Canon s)
    (hr : replaceSubject h e s = .ok r) : AscDigests r.assertions :=
  (replaceSubject_canon h he hs hr).asc
example : ∃ r, replaceSubject toyHash sNode sA3 = .ok r ∧ AscDigests r.assertions :=
  Res.exists_ok_and (replaceSubject_isOk toyHash sA3 sNode_inv.2.slotOk)
    (replaceSubject_resorts _ sNode_inv.2 sA3_inv.2)

/-- C04's last sentence, at every element -/
theorem inv_recompute {e : Env} (hi : Inv h e) : ∀ x ∈ elements e, x.digest = recompute h x :=
  fun _ hx => wf_recompute (hi.1.elements hx)
example : sA1.digest = recompute toyHash sA1 := wf_recompute sA1_inv.1

/-- the shape clauses of C04, read off `Canon` at every node element -/
theorem inv_node_shape {e : Env} (hi : Inv h e) : ∀ s as d, Env.node s as d ∈ elements e →
    as ≠ [] ∧ AscDigests as ∧ (∀ a ∈ as, a.slotOk = true) ∧
      as.Pairwise (fun a b => a.digest ≠ b.digest) := by
  intro s as d hx
  have hc := hi.2.elements hx
  exact ⟨hc.assertions_ne_nil, hc.asc, hc.slotOk, hc.asc.distinct⟩
example : AscDigests [sA2, sA1] :=
  (inv_node_shape toyHash sNode_inv sSubj [sA2, sA1] sNode.digest
    (by simp [sNode, elements, Env.digest])).2.1

end
end EnvVerif
