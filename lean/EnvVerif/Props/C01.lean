/-
  Props/C01.lean — C01: the digest tree matches the specification.
  Every constructor establishes `WF` and every operation of `Op` preserves it (arguments assumed
  `WF`), hence so does every finite history; a `WF`, canonical envelope reports the specification's
  digest, for itself and for each element; the cached digests are a function of the content (route
  independence).  `h` is arbitrary; nothing is assumed about `Aead` / `Deflate`.
-/
import EnvVerif.Lemmas.Samples
namespace EnvVerif
open Env InvL

section
variable (h : Hash) (A : Aead) (Z : Deflate)

theorem newLeaf_wf (c : Cbor) : WF h (newLeaf h c) := rfl

theorem newKnownValue_wf (v : Nat) : WF h (newKnownValue h v) := rfl

theorem newAssertion_wf {p o : Env} (hp : WF h p) (ho : WF h o) : WF h (newAssertion h p o) :=
  ⟨hp, ho, rfl⟩
example : WF toyHash (newAssertion toyHash sA1 sNode) := newAssertion_wf _ sA1_inv.1 sNode_inv.1

theorem newWrapped_wf {e : Env} (he : WF h e) : WF h (newWrapped h e) := ⟨he, rfl⟩
example : WF toyHash (newWrapped toyHash sNode) := newWrapped_wf _ sNode_inv.1

theorem newElided_wf (d : Digest) : WF h (newElided d) := trivial

theorem mkNode_wf_of {s : Env} {as : List Env} (hs : WF h s) (has : ∀ a ∈ as, WF h a) :
    WF h (mkNode h s as) := (WF_mkNode h).2 ⟨hs, has⟩
example : WF toyHash (mkNode toyHash sSubj [sA1, sA2, sA3]) :=
  mkNode_wf_of _ sSubj_inv.1 (by simp [sA1_inv.1, sA2_inv.1, sA3_inv.1])

theorem newNodeUnchecked_wf {s r : Env} {as : List Env} (hs : WF h s) (has : ∀ a ∈ as, WF h a)
    (hr : newNodeUnchecked h s as = .ok r) : WF h r := by
  obtain ⟨_, rfl⟩ := (newNodeUnchecked_eq_ok h).1 hr
  exact mkNode_wf_of h hs has
example : ∃ r, newNodeUnchecked toyHash sSubj [sA1, sA2] = .ok r ∧ WF toyHash r :=
  ⟨_, rfl, newNodeUnchecked_wf _ (as := [sA1, sA2]) sSubj_inv.1 (by simp [sA1_inv.1, sA2_inv.1]) rfl⟩

theorem newNode_wf {s r : Env} {as : List Env} (hs : WF h s) (has : ∀ a ∈ as, WF h a)
    (hr : newNode h s as = .ok r) : WF h r := by
  obtain ⟨_, _, rfl⟩ := (newNode_eq_ok h).1 hr
  exact mkNode_wf_of h hs has
example : ∃ r, newNode toyHash sSubj [sA1, sA2] = .ok r ∧ WF toyHash r := by
  have hr := (newNode_eq_ok toyHash (s := sSubj) (as := [sA1, sA2])).2
    ⟨by simp [sA_slotOk], by simp, rfl⟩
  exact ⟨_, hr, newNode_wf _ sSubj_inv.1 (by simp [sA1_inv.1, sA2_inv.1]) hr⟩

theorem addAssertionEnvelope_wf {e a r : Env} (he : WF h e) (ha : WF h a)
    (hr : addAssertionEnvelope h e a = .ok r) : WF h r := by
  rw [AW.add_ok_eq hr]
  split
  · exact he
  · exact (WF_mkNode h).2 ⟨he.subject, List.forall_mem_append.2
      ⟨he.assertions, List.forall_mem_singleton.2 ha⟩⟩
example : ∃ r, addAssertionEnvelope toyHash sNode sA3 = .ok r ∧ WF toyHash r :=
  Res.exists_ok_and (AW.add_isOk toyHash sNode sA_slotOk.2.2)
    (addAssertionEnvelope_wf _ sNode_inv.1 sA3_inv.1)

theorem removeAssertion_wf {e t r : Env} (he : WF h e) (hr : removeAssertion h e t = .ok r) :
    WF h r := by
  rw [AW.removeAssertion_eq] at hr
  cases hr
  split
  · exact he
  · exact AW.WF_rebuild.2 ⟨he.subject, fun x hx =>
      he.assertions x (List.mem_of_mem_eraseIdx (mem_sortByDigest.1 hx))⟩
example : ∃ r, removeAssertion toyHash sNode sA1 = .ok r ∧ WF toyHash r :=
  Res.exists_ok_and ⟨_, AW.removeAssertion_eq toyHash sNode sA1⟩ (removeAssertion_wf _ sNode_inv.1)

theorem replaceAssertion_wf {e a b r : Env} (he : WF h e) (hb : WF h b)
    (hr : replaceAssertion h e a b = .ok r) : WF h r := by
  obtain ⟨e', h1, h2⟩ := Res.bind_eq_ok.1 hr
  exact addAssertionEnvelope_wf h (removeAssertion_wf h he h1) hb h2
example : ∃ r, replaceAssertion toyHash sNode sA1 sA3 = .ok r ∧ WF toyHash r :=
  Res.exists_ok_and (replaceAssertion_isOk toyHash sNode sA1 sA_slotOk.2.2)
    (replaceAssertion_wf _ sNode_inv.1 sA3_inv.1)

theorem addAll_wf {e r : Env} {as : List Env} (he : WF h e) (has : ∀ a ∈ as, WF h a)
    (hr : addAll h e as = .ok r) : WF h r :=
  Res.foldl_bind_inv (P := WF h) (Q := WF h) (fun x a => addAssertionEnvelope h x a)
    (fun _ _ _ hx ha hs => addAssertionEnvelope_wf h hx ha hs) as e r he has hr
example : ∃ r, addAll toyHash sNode [sA3, sA1] = .ok r ∧ WF toyHash r :=
  Res.exists_ok_and (addAll_isOk toyHash [sA3, sA1] sNode (by simp [sA_slotOk]))
    (addAll_wf _ sNode_inv.1 (by simp [sA3_inv.1, sA1_inv.1]))

theorem replaceSubject_wf {e s r : Env} (he : WF h e) (hs : WF h s)
    (hr : replaceSubject h e s = .ok r) : WF h r :=
  addAll_wf h hs he.assertions (replaceSubject_ok hr)
example : ∃ r, replaceSubject toyHash sNode sA3 = .ok r ∧ WF toyHash r :=
  Res.exists_ok_and (replaceSubject_isOk toyHash sA3 sNode_inv.2.slotOk)
    (replaceSubject_wf _ sNode_inv.1 sA3_inv.1)

theorem wrap_wf {e : Env} (he : WF h e) : WF h (wrap h e) := newWrapped_wf h he
example : WF toyHash (wrap toyHash sNode) := wrap_wf _ sNode_inv.1

theorem unwrap_wf {e r : Env} (he : WF h e) (hr : unwrap e = .ok r) : WF h r := by
  obtain ⟨d, hs⟩ := unwrap_eq_ok.1 hr
  exact ((WF_wrapped ..).1 (hs ▸ he.subject)).1
example : ∃ r, unwrap (wrap toyHash sNode) = .ok r ∧ WF toyHash r :=
  ⟨sNode, rfl, unwrap_wf _ (wrap_wf _ sNode_inv.1) rfl⟩

theorem subject_wf {e : Env} (he : WF h e) : WF h e.subject := he.subject
example : WF toyHash sNode.subject := subject_wf _ sNode_inv.1

theorem elide_wf (e : Env) : WF h (elide e) := elide_eq e ▸ trivial

theorem elideSet_wf {T : Digest → Bool} {rev : Bool} {act : Action} {e r : Env} (hw : WF h e)
    (hr : elideSet h A Z T rev act e = .ok r) : WF h r := by
  refine elideSet_ok_rec h A Z T rev act (P := fun e r => WF h e → WF h r) ?_ (fun _ => id) ?_ ?_ ?_
    hr hw
  · intro e r _ ho hw
    rcases obscure_ok ho with rfl | ⟨m, d, rfl, hm⟩ | ⟨c, rfl⟩ | ⟨rfl, _⟩
    · trivial
    · exact hm
    · trivial
    · exact hw
  · intro s as d s' as' hs _ has _ hw
    refine (WF_mkNode h).2 ⟨hs hw.subject, fun a' ha' => ?_⟩
    obtain ⟨a, ha, hP, _⟩ := has.forall_mem_right a' ha'
    exact hP (hw.assertions a ha)
  · intro e d e' he _ hw; exact ⟨he hw.1, rfl⟩
  · intro p o d p' o' hp ho hd hw; exact ⟨hp hw.1, ho hw.2.1, hd.symm⟩
example : ∃ r, elideSet toyHash idAead idDeflate sTarget false .elide sNode = .ok r ∧ WF toyHash r :=
  Res.exists_ok_and sElideSet_ok.1 (elideSet_wf _ _ _ sNode_inv.1)
example : ∃ r, elideSet toyHash idAead idDeflate sTarget false .compress sNode = .ok r ∧ WF toyHash r :=
  Res.exists_ok_and sElideSet_ok.2.1 (elideSet_wf _ _ _ sNode_inv.1)
example : ∃ r, elideSet toyHash idAead idDeflate sTarget false sEncAct sNode = .ok r ∧ WF toyHash r :=
  Res.exists_ok_and sElideSet_ok.2.2.1 (elideSet_wf _ _ _ sNode_inv.1)
example : ∃ r, elideSet toyHash idAead idDeflate sTarget true .elide sNode = .ok r ∧ WF toyHash r :=
  Res.exists_ok_and sElideSet_ok.2.2.2 (elideSet_wf _ _ _ sNode_inv.1)

theorem compress_wf {e r : Env} (hr : compress Z e = .ok r) : WF h r := by
  obtain ⟨c, rfl⟩ := compress_ok Z hr; trivial
example : ∃ r, compress idDeflate sNode = .ok r ∧ WF toyHash r :=
  ⟨_, rfl, compress_wf _ _ (e := sNode) rfl⟩

theorem compressSubject_wf {e r : Env} (he : WF h e) (hr : compressSubject h Z e = .ok r) :
    WF h r := by
  unfold compressSubject at hr
  split at hr
  · cases hr; exact he
  · obtain ⟨s, h1, h2⟩ := Res.bind_eq_ok.1 hr
    exact replaceSubject_wf h he (compress_wf h Z h1) h2
example : ∃ r, compressSubject toyHash idDeflate sNode = .ok r ∧ WF toyHash r := by
  have hr := (compressSubject_eq_ok toyHash idDeflate sNode_inv).2 ⟨_, rfl, rfl⟩
  exact ⟨_, hr, compressSubject_wf _ _ sNode_inv.1 hr⟩

theorem encryptSubject_wf {key nonce : Bytes} {e r : Env} (he : WF h e)
    (hr : encryptSubject h A key nonce e = .ok r) : WF h r := by
  obtain ⟨m, d, hm, hw⟩ := encryptSubject_withSubject hr
  exact withSubject_wf he (s := .encrypted m d) hm hw
example : ∃ r, encryptSubject toyHash idAead [1] [2] sNode = .ok r ∧ WF toyHash r :=
  Res.exists_ok_and sEncryptSubject_ok (encryptSubject_wf _ _ sNode_inv.1)

theorem encryptWhole_wf {key nonce : Bytes} {e r : Env} (he : WF h e)
    (hr : encryptWhole h A key nonce e = .ok r) : WF h r :=
  encryptSubject_wf h A (wrap_wf h he) ((encryptWhole_eq_ok h A).1 hr)
example : ∃ r, encryptWhole toyHash idAead [1] [2] sNode = .ok r ∧ WF toyHash r :=
  Res.exists_ok_and sEncryptWhole_ok (encryptWhole_wf _ _ sNode_inv.1)

theorem unelide_wf {p e r : Env} (he : WF h e) (hr : unelide p e = .ok r) : WF h r :=
  (unelide_eq_ok.1 hr).2 ▸ he
example : ∃ r, unelide (elide sNode) sNode = .ok r ∧ WF toyHash r :=
  ⟨sNode, unelide_eq_ok.2 ⟨rfl, rfl⟩, sNode_inv.1⟩

theorem decodeEncrypted_wf {item : Cbor} {e : Env} (he : decodeEncrypted item = .ok e) : WF h e := by
  obtain ⟨m, d, rfl, _, hd, _⟩ := (decodeEncrypted_sat item).of_ok he
  exact hd
example : ∃ e, decodeEncrypted (encMsgCbor sMsg) = .ok e ∧ WF toyHash e :=
  Res.exists_ok_and sDecodeParts_ok.1 (decodeEncrypted_wf _)

theorem decodeCompressed_wf {item : Cbor} {e : Env} (he : decodeCompressed item = .ok e) : WF h e := by
  obtain ⟨c, d, rfl, _⟩ := (decodeCompressed_sat item).of_ok he
  trivial
example : ∃ e, decodeCompressed (compMsgCbor (compressedOf idDeflate (encode sA3)) sA3.digest) = .ok e ∧
    WF toyHash e :=
  Res.exists_ok_and sDecodeParts_ok.2.1 (decodeCompressed_wf _)

theorem envOfCbor_wf (c : Cbor) (e : Env) (he : envOfCbor h c = .ok e) : WF h e :=
  ((envOfCbor_sat h c).of_ok he).2.1

theorem envOfCborList_wf : (cs : List Cbor) → (es : List Env) → envOfCborList h cs = .ok es → WFList h es :=
  fun cs es he => (WFList_iff h es).2 ((envOfCborList_sat h cs).of_ok he).2.1
example : ∃ e, envOfCbor toyHash (cborOf sA3) = .ok e ∧ WF toyHash e :=
  Res.exists_ok_and sDecodeParts_ok.2.2.1 (envOfCbor_wf _ _ _)

theorem envOfTaggedCbor_wf {c : Cbor} {e : Env} (he : envOfTaggedCbor h c = .ok e) : WF h e :=
  ((envOfTaggedCbor_sat h c).of_ok he).2.1.1
example : ∃ e, envOfTaggedCbor toyHash (taggedCborOf sA3) = .ok e ∧ WF toyHash e :=
  Res.exists_ok_and sDecodeParts_ok.2.2.2 (envOfTaggedCbor_wf _)

theorem decode_wf {b : Bytes} {e : Env} (he : decode h b = .ok e) : WF h e := (decode_inv he).1
example : ∃ r, decode toyHash (encode sA3) = .ok r ∧ WF toyHash r :=
  Res.exists_ok_and sDecode_ok (decode_wf _)

theorem uncompress_wf {e r : Env} (hr : uncompress h Z e = .ok r) : WF h r := (uncompress_inv hr).1
example : ∃ r, uncompress toyHash idDeflate sComp = .ok r ∧ WF toyHash r :=
  Res.exists_ok_and sUncompress_ok (uncompress_wf _ _)

theorem uncompressSubject_wf {e r : Env} (he : WF h e) (hr : uncompressSubject h Z e = .ok r) :
    WF h r := by
  obtain rfl | ⟨s, hs, hw⟩ := uncompressSubject_withSubject hr
  · exact he
  · exact withSubject_wf he hs.1 hw
example : ∃ r, uncompressSubject toyHash idDeflate sNodeC = .ok r ∧ WF toyHash r :=
  Res.exists_ok_and sUncompressSubject_ok (uncompressSubject_wf _ _ sNodeC_inv.1)

theorem decryptSubject_wf {key : Bytes} {e r : Env} (he : WF h e)
    (hr : decryptSubject h A key e = .ok r) : WF h r := by
  obtain ⟨s, hs, hw⟩ := decryptSubject_withSubject hr
  exact withSubject_wf he hs.1 hw
example : ∃ r, decryptSubject toyHash idAead [1] sEnc = .ok r ∧ WF toyHash r :=
  Res.exists_ok_and sDecryptSubject_ok (decryptSubject_wf _ _ sEnc_inv.1)

theorem decryptWhole_wf {key : Bytes} {e r : Env} (he : WF h e)
    (hr : decryptWhole h A key e = .ok r) : WF h r := by
  obtain ⟨x, h1, h2⟩ := Res.bind_eq_ok.1 hr
  exact unwrap_wf h (decryptSubject_wf h A he h1) h2
example : ∃ r, decryptWhole toyHash idAead [1] sEncW = .ok r ∧ WF toyHash r :=
  Res.exists_ok_and sDecryptWhole_ok (decryptWhole_wf _ _ sEncW_inv.1)

theorem applyOp_wf {o : Op} {e r : Env} (he : WF h e) (ha : ∀ a ∈ o.args, WF h a)
    (hr : applyOp h A Z o e = .ok r) : WF h r := by
  /- `applyOp` is unfolded in `hr` first: given the folded call, the unifier unfolds `encryptSubject`
  in the two encrypting cases and runs the CBOR decoder on the symbolic additional data -/
  cases o <;> simp only [applyOp] at hr
  case addAssertion a => exact addAssertionEnvelope_wf h he (ha a (.head _)) hr
  case removeAssertion t => exact removeAssertion_wf h he hr
  case replaceAssertion a b => exact replaceAssertion_wf h he (ha b (.tail _ (.head _))) hr
  case replaceSubject s => exact replaceSubject_wf h he (ha s (.head _)) hr
  case addAll as => exact addAll_wf h he ha hr
  case assertionWithObject o => cases hr; exact newAssertion_wf h he (ha o (.head _))
  case assertionWithPredicate p => cases hr; exact newAssertion_wf h (ha p (.head _)) he
  case wrap => cases hr; exact wrap_wf h he
  case unwrap => exact unwrap_wf h he hr
  case subject => cases hr; exact he.subject
  case elide => cases hr; exact elide_wf h e
  case elideSet T rev act => exact elideSet_wf h A Z he hr
  case compress => exact compress_wf h Z hr
  case compressSubject => exact compressSubject_wf h Z he hr
  case encryptSubject key nonce => exact encryptSubject_wf h A he hr
  case encryptWhole key nonce => exact encryptWhole_wf h A he hr
  case unelide o => exact unelide_wf h (ha o (.head _)) hr
  case decodeBytes b => exact decode_wf h hr
  case reencode => exact decode_wf h hr
  case uncompress => exact uncompress_wf h Z hr
  case uncompressSubject => exact uncompressSubject_wf h Z he hr
  case decryptSubject key => exact decryptSubject_wf h A he hr
  case decryptWhole key => exact decryptWhole_wf h A he hr
example : ∃ r, applyOp toyHash idAead idDeflate (.addAssertion sA3) sNode = .ok r ∧ WF toyHash r :=
  Res.exists_ok_and (AW.add_isOk toyHash sNode sA_slotOk.2.2)
    (applyOp_wf toyHash idAead idDeflate (o := .addAssertion sA3) sNode_inv.1
      (List.forall_mem_singleton.2 sA3_inv.1))

theorem history_wf (ops : List Op) : ∀ (e0 : Env), WF h e0 → (∀ o ∈ ops, ∀ a ∈ o.args, WF h a) →
    ∀ r, Res.ok r ∈ runHistory h A Z e0 ops → WF h r :=
  runHistory_ok h A Z (P := WF h) (Q := fun o => ∀ a ∈ o.args, WF h a) (applyOp_wf h A Z) ops
/-- decoding steps included; only the first step is shown to produce a result -/
example :
    (∀ r, Res.ok r ∈ runHistory toyHash idAead idDeflate sNode
        [.wrap, .compress, .uncompress, .unwrap, .addAssertion sA3, .removeAssertion sA1, .elide] →
      WF toyHash r) ∧
    Res.ok (wrap toyHash sNode) ∈ runHistory toyHash idAead idDeflate sNode
        [.wrap, .compress, .uncompress, .unwrap, .addAssertion sA3, .removeAssertion sA1, .elide] :=
  ⟨history_wf _ _ _ _ sNode sNode_inv.1 (forall_args_of_flatMap
      (List.forall_mem_cons.2 ⟨sA3_inv.1, List.forall_mem_singleton.2 sA1_inv.1⟩)),
   runHistory_head _ _ _ rfl⟩

/-- arguments are built the same way: the histories form a DAG, not a list -/
theorem produced_wf {dec : Bool} {e : Env} (hp : Produced h A Z dec e) : WF h e := by
  induction hp with
  | leaf c => exact newLeaf_wf h c
  | knownValue v => exact newKnownValue_wf h v
  | elided d _ => exact newElided_wf h d
  | op o e r _ _ _ hr ihe iha => exact applyOp_wf h A Z ihe iha hr
example : Produced toyHash idAead idDeflate false sA1 :=
  .op (.assertionWithObject (newLeaf toyHash (.uint 10))) (newKnownValue toyHash 1) sA1 (.knownValue 1)
    (List.forall_mem_singleton.2 (.leaf _))
    (fun _ => rfl) rfl

theorem digest_eq_spec (e : Env) (hw : WF h e) (hc : Canon e) : e.digest = specDigest h e := by
  induction e using Env.induct with
  | hnode s as d ihs ihas =>
    rw [WF_node] at hw
    have hmap : as.map (specDigest h) = as.map Env.digest :=
      List.map_congr_left fun a ha => (ihas a ha (hw.2.1 a ha) (hc.assertions a ha)).symm
    rw [specDigest, specDigestList_eq, hmap, ← ihs hw.1 hc.subject, List.mergeSort_of_pairwise]
    · exact hw.2.2
    · rw [List.pairwise_map]
      exact hc.asc.imp fun {a b} hab => by simp only [decide_eq_true_eq]; omega
  | hleaf c d => exact hw
  | hwrapped e d ih => rw [specDigest, ← ih hw.1 hc]; exact hw.2
  | hassertion p o d ihp iho => rw [specDigest, ← ihp hw.1 hc.1, ← iho hw.2.1 hc.2]; exact hw.2.2
  | helided d => rfl
  | hknownValue v d => exact hw
  | hencrypted m d => rw [specDigest, (WF_encrypted ..).1 hw]; rfl
  | hcompressed c d => rfl

theorem digests_eq_specList_aux : (as : List Env) → WFList h as → CanonList as →
    as.map Env.digest = specDigestList h as := by
  intro as hw hc
  rw [specDigestList_eq]
  exact List.map_congr_left fun a ha =>
    digest_eq_spec h a ((WFList_iff h as).1 hw a ha) ((CanonList_iff as).1 hc a ha)

theorem wf_digest_eq_spec {e : Env} (hi : Inv h e) : e.digest = specDigest h e :=
  digest_eq_spec h e hi.1 hi.2
example : sNode.digest = specDigest toyHash sNode := wf_digest_eq_spec _ sNode_inv

theorem wf_digest_eq_spec_elements {e : Env} (hi : Inv h e) :
    ∀ x ∈ elements e, x.digest = specDigest h x :=
  fun x hx => digest_eq_spec h x (hi.1.elements hx) (hi.2.elements hx)
example : sA1.digest = specDigest toyHash sA1 := wf_digest_eq_spec _ sA1_inv

/-- why `wf_digest_eq_spec` asks for `Inv`: the assertions' ascending order (`Canon`) is needed
(DESIGN Appendix D's abridged statement with `WF` only is false).  The witness's digest was
computed over its assertions in descending order. -/
theorem wf_alone_digest_ne_spec :
    WF toyHash sUnsorted ∧ sUnsorted.digest ≠ specDigest toyHash sUnsorted := by
  refine ⟨⟨sSubj_inv.1, ⟨sA1_inv.1, sA2_inv.1, trivial⟩, rfl⟩, ?_⟩
  have hs : specDigest toyHash sUnsorted =
      toyHash.ofDigests [sSubj.digest, sA2.digest, sA1.digest] := by
    simp only [sUnsorted, specDigest, specDigestList, ← wf_digest_eq_spec toyHash sSubj_inv,
      ← wf_digest_eq_spec toyHash sA1_inv, ← wf_digest_eq_spec toyHash sA2_inv]
    rw [List.mergeSort_pair, if_neg (by simpa using sDigests.1)]
  rw [hs]
  exact sDigests.2.2.2

mutual
/-- the cached digests computed again from the content, bottom up -/
def rehash : Env → Env
  | .node s as _ => AW.nodeOf h (rehash s) (rehashList as)
  | .leaf c _ => newLeaf h c
  | .wrapped e _ => newWrapped h (rehash e)
  | .assertion p o _ => newAssertion h (rehash p) (rehash o)
  | .knownValue v _ => newKnownValue h v
  | e => e
def rehashList : List Env → List Env
  | [] => []
  | a :: as => rehash a :: rehashList as
end

theorem rehashList_eq (as : List Env) : rehashList h as = as.map (rehash h) := by
  induction as with
  | nil => rfl
  | cons a as ih => simp only [rehashList, ih, List.map_cons]

/-- `WF` leaves no choice of digests -/
theorem rehash_erase {e : Env} (hw : WF h e) : rehash h (erase e) = e := by
  induction e using Env.induct with
  | hnode s as d ihs ihas =>
    rw [WF_node] at hw
    have has : (as.map erase).map (rehash h) = as := by
      rw [List.map_map]
      exact (List.map_congr_left fun a ha => ihas a ha (hw.2.1 a ha)).trans (List.map_id as)
    rw [erase, rehash, eraseList_eq, rehashList_eq, ihs hw.1, has, hw.2.2]; rfl
  | hleaf c d => rw [(WF_leaf ..).1 hw]; rfl
  | hwrapped e d ih => rw [erase, rehash, ih hw.1, hw.2]; rfl
  | hassertion p o d ihp iho => rw [erase, rehash, ihp hw.1, iho hw.2.1, hw.2.2]; rfl
  | hknownValue v d => rw [(WF_knownValue ..).1 hw]; rfl
  | _ => rfl

theorem erase_inj (a : Env) : ∀ b, WF h a → WF h b → erase a = erase b → a = b :=
  fun b ha hb he => by rw [← rehash_erase h ha, he, rehash_erase h hb]

theorem eraseList_inj : (as bs : List Env) → WFList h as → WFList h bs →
    eraseList as = eraseList bs → as = bs := by
  intro as bs ha hb he
  rw [eraseList_eq, eraseList_eq] at he
  exact List.eq_of_map_eq_map he fun a hm b hm' =>
    erase_inj h a b ((WFList_iff h as).1 ha a hm) ((WFList_iff h bs).1 hb b hm')

theorem route_independent {a b : Env} (ha : WF h a) (hb : WF h b) (he : erase a = erase b) : a = b :=
  erase_inj h a b ha hb he
/-- two routes to the same content: the node written out, and the node assembled by `mkNode` -/
example : sNode = mkNode toyHash sSubj [sA2, sA1] :=
  route_independent toyHash sNode_inv.1
    (mkNode_wf_of _ sSubj_inv.1 (by simp [sA1_inv.1, sA2_inv.1]))
    (by
      -- `erase` forgets the digest `mkNode` computes; the sort leaves an ascending list as it is
      show erase sNode = .node (erase sSubj) (eraseList (sortByDigest [sA2, sA1])) ⟨0⟩
      rw [sortByDigest_of_asc sNode_asc]
      rfl)

theorem route_independent_digest {a b : Env} (ha : WF h a) (hb : WF h b) (he : erase a = erase b) :
    a.digest = b.digest := by rw [route_independent h ha hb he]

end
end EnvVerif
