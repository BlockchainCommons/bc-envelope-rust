/-
  Props/C19.lean — attachments (`src/extension/attachment/attachment_impl.rs`) and types
  (`src/extension/types.rs`).

  `attachmentOf h payload v c` is the assertion `Assertion::new_attachment` builds,
  `addAttachments` a fold of `add_attachment` over triples (Lemmas/ExtLemmas.lean, with `attOfT`
  and `AttGood`).  `AttGood` is needed: if `'vendor': v` and `'conformsTo': c'` had one digest,
  `add_assertion` would drop the second as a duplicate.

  An add whose digest is already among the receiver's assertions is ignored by the library;
  so the "exactly the added ones" statements assume that an assertion of the receiver with the
  digest of an added element *is* that element (`hcross`; needed: `c19_addType_elided_witness`),
  and that the added elements have pairwise different digests unless equal (`DigInj`).

  Only the container theorems at the end use `Inv h e`; elsewhere it is carried unused, and so
  is `hs` by `c19_malformed_extra_assertion` (`ho` implies it, `AW.add_slotOk`).
-/
import EnvVerif.Lemmas.ExtSamples
import EnvVerif.Props.C07
namespace EnvVerif
open Env AW ExtL InvL

/-- `new_attachment` is total and its result is an assertion `'attachment': obj` whose object
has the wrapped payload as subject -/
theorem c19_newAttachment_total (h : Hash) (payload : Env) (v : Bytes) (c : Option Bytes) :
    newAttachment h payload v c = .ok (attachmentOf h payload v c) ∧
    attachmentOf h payload v c =
      newAssertion h (newKnownValue h KV_ATTACHMENT) (attachmentObject h payload v c) ∧
    (attachmentObject h payload v c).subject = wrap h payload ∧
    (attachmentOf h payload v none).digest =
      (newAssertion h (newKnownValue h KV_ATTACHMENT)
        (.node (wrap h payload) [vendorAssertion h v]
          (h.ofDigests [(wrap h payload).digest, (vendorAssertion h v).digest]))).digest :=
  ⟨newAttachment_eq h payload v c, rfl, rfl, rfl⟩

/-- payload, vendor and conformsTo read back from a new attachment are the ones given, and the
attachment validates -/
theorem c19_newAttachment_fields {h : Hash} {payload a : Env} {v : Bytes} {c : Option Bytes}
    (hk : (newKnownValue h KV_VENDOR).digest ≠ (newKnownValue h KV_CONFORMS_TO).digest)
    (hd : ∀ c', c = some c' → (vendorAssertion h v).digest ≠ (conformsToAssertion h c').digest)
    (ha : newAttachment h payload v c = .ok a) :
    attachmentPayload a = .ok payload ∧ attachmentVendor h a = .ok v ∧
    attachmentConformsTo h a = .ok c ∧ validateAttachment h a = .ok () := by
  rw [newAttachment_eq] at ha
  cases ha
  have hg : AttGood h v c := ⟨hk, hd⟩
  exact ⟨attachmentPayload_of h payload v c, attachmentVendor_of hg payload,
    attachmentConformsTo_of hg payload, validateAttachment_of hg payload⟩

example : (newKnownValue InvL.toyHash KV_VENDOR).digest ≠ (newKnownValue InvL.toyHash KV_CONFORMS_TO).digest ∧
    (∀ c', some [0x63] = some c' →
      (vendorAssertion InvL.toyHash [0x62]).digest ≠ (conformsToAssertion InvL.toyHash c').digest) ∧
    ∃ a, newAttachment InvL.toyHash InvL.sNode [0x62] (some [0x63]) = .ok a :=
  ⟨sample_atts.1.1, fun _ hc => Option.some.inj hc ▸ sample_atts.1.2.1, _, newAttachment_eq _ _ _ _⟩

/-- `add_attachment` is `add_assertion_envelope` of the attachment assertion and never fails -/
theorem c19_addAttachment_total (h : Hash) (e payload : Env) (v : Bytes) (c : Option Bytes) :
    addAttachment h e payload v c = addAssertionEnvelope h e (attachmentOf h payload v c) ∧
    ∃ r, addAttachment h e payload v c = .ok r :=
  ⟨addAttachment_eq h e payload v c,
    _, (addAttachment_eq h e payload v c).trans (add_eq h e (attachmentOf_slotOk h payload v c))⟩

/-- the filter of `attachments_with_vendor_and_conforms_to`, on an attachment whose vendor and
conformsTo are readable -/
theorem c19_attachmentMatches_iff {h : Hash} {a : Env} {v : Bytes} {c : Option Bytes}
    (hv : attachmentVendor h a = .ok v) (hc : attachmentConformsTo h a = .ok c)
    (vendor conf : Option Bytes) :
    attachmentMatches h vendor conf a = true ↔
      (∀ x, vendor = some x → x = v) ∧ (∀ x, conf = some x → c = some x) := by
  rw [attachmentMatches.eq_def, hv, hc, Bool.and_eq_true]
  refine and_congr ?_ ?_
  · cases vendor with
    | none => simp
    | some w => simpa using eq_comm
  · cases conf <;> cases c <;> simp

/-- the filtered query returns exactly the matching ones among the attachments already there
(assumed valid) and the added ones -/
theorem c19_filter_exact {h : Hash} {e r : Env} {L : List (Env × Bytes × Option Bytes)}
    (hi : Inv h e)
    (hgood : ∀ t ∈ L, AttGood h t.2.1 t.2.2)
    (hold : ∀ a ∈ assertionsWithPredicate e (newKnownValue h KV_ATTACHMENT), validateAttachment h a = .ok ())
    (hcross : ∀ x ∈ e.assertions, ∀ t ∈ L, x.digest = (attOfT h t).digest → x = attOfT h t)
    (hinj : DigInj (L.map (attOfT h)))
    (hr : addAttachments h e L = .ok r) (vendor conf : Option Bytes) :
    ∃ l, attachmentsWith h r vendor conf = .ok l ∧
      ∀ a, a ∈ l ↔
        (a ∈ assertionsWithPredicate e (newKnownValue h KV_ATTACHMENT) ∧
          attachmentMatches h vendor conf a = true) ∨
        ∃ t ∈ L, a = attOfT h t ∧ (∀ x, vendor = some x → x = t.2.1) ∧
          (∀ x, conf = some x → t.2.2 = some x) := by
  have hmem := awp_addAttachments hcross hinj hr
  have hmatch := fun t (ht : t ∈ L) => c19_attachmentMatches_iff (attachmentVendor_of (hgood t ht) t.1)
    (attachmentConformsTo_of (hgood t ht) t.1) vendor conf
  refine ⟨_, (attachmentsWith_ok_iff h r vendor conf _).2 ⟨fun a ha => ?_, rfl⟩, fun a => ?_⟩
  · rcases (hmem a).1 ha with ha | ⟨t, ht, rfl⟩
    · exact hold a ha
    · exact validateAttachment_of (hgood t ht) t.1
  · rw [List.mem_filter, hmem a, or_and_right]
    refine or_congr Iff.rfl ⟨?_, ?_⟩
    · rintro ⟨⟨t, ht, rfl⟩, hm⟩
      exact ⟨t, ht, rfl, (hmatch t ht).1 hm⟩
    · rintro ⟨t, ht, rfl, hm⟩
      exact ⟨⟨t, ht, rfl⟩, (hmatch t ht).2 hm⟩

/-- without a filter: `attachments()` returns exactly the attachments already there (assumed
valid) and the added ones -/
theorem c19_attachments_exact {h : Hash} {e r : Env} {L : List (Env × Bytes × Option Bytes)}
    (hi : Inv h e)
    (hgood : ∀ t ∈ L, AttGood h t.2.1 t.2.2)
    (hold : ∀ a ∈ assertionsWithPredicate e (newKnownValue h KV_ATTACHMENT), validateAttachment h a = .ok ())
    (hcross : ∀ x ∈ e.assertions, ∀ t ∈ L, x.digest = (attOfT h t).digest → x = attOfT h t)
    (hinj : DigInj (L.map (attOfT h)))
    (hr : addAttachments h e L = .ok r) :
    r.subject = e.subject ∧
    ∃ l, attachmentsWith h r none none = .ok l ∧
      ∀ a, a ∈ l ↔ a ∈ assertionsWithPredicate e (newKnownValue h KV_ATTACHMENT) ∨ ∃ t ∈ L, a = attOfT h t := by
  obtain ⟨l, hl, hm⟩ := c19_filter_exact hi hgood hold hcross hinj hr none none
  exact ⟨(addAll_ok _ (addAttachments_eq h e L ▸ hr)).2.1, l, hl,
    fun a => by simpa [attachmentMatches] using hm a⟩

/-- the statement of the property: the receiver has no attachments, then exactly the added
ones come back, each with the payload, vendor and conformsTo it was added with -/
theorem c19_attachments_exact_fresh {h : Hash} {e r : Env} {L : List (Env × Bytes × Option Bytes)}
    (hi : Inv h e)
    (hgood : ∀ t ∈ L, AttGood h t.2.1 t.2.2)
    (hnone : assertionsWithPredicate e (newKnownValue h KV_ATTACHMENT) = [])
    (hfresh : ∀ x ∈ e.assertions, ∀ t ∈ L, x.digest ≠ (attOfT h t).digest)
    (hinj : DigInj (L.map (attOfT h)))
    (hr : addAttachments h e L = .ok r) :
    ∃ l, attachmentsWith h r none none = .ok l ∧
      (∀ a, a ∈ l ↔ ∃ t ∈ L, a = attOfT h t) ∧
      (∀ t ∈ L, attachmentPayload (attOfT h t) = .ok t.1 ∧ attachmentVendor h (attOfT h t) = .ok t.2.1 ∧
        attachmentConformsTo h (attOfT h t) = .ok t.2.2) := by
  obtain ⟨_, l, hl, hm⟩ := c19_attachments_exact hi hgood (by rw [hnone]; intro a ha; cases ha)
    (fun x hx t ht hd => absurd hd (hfresh x hx t ht)) hinj hr
  refine ⟨l, hl, ?_, ?_⟩
  · intro a; rw [hm a, hnone]; simp
  · intro t ht
    exact ⟨attachmentPayload_of h _ _ _, attachmentVendor_of (hgood t ht) _,
      attachmentConformsTo_of (hgood t ht) _⟩

/-- sample: two attachments (one with conformsTo) added to the two-assertion sample node -/
example : ∃ r, Inv InvL.toyHash InvL.sNode ∧
    (∀ t ∈ [(InvL.sSubj, ([0x61] : Bytes), (none : Option Bytes)), (InvL.sA1, [0x62], some [0x63])],
      AttGood InvL.toyHash t.2.1 t.2.2) ∧
    assertionsWithPredicate InvL.sNode (newKnownValue InvL.toyHash KV_ATTACHMENT) = [] ∧
    (∀ x ∈ InvL.sNode.assertions,
      ∀ t ∈ [(InvL.sSubj, ([0x61] : Bytes), (none : Option Bytes)), (InvL.sA1, [0x62], some [0x63])],
      x.digest ≠ (attOfT InvL.toyHash t).digest) ∧
    DigInj ([(InvL.sSubj, ([0x61] : Bytes), (none : Option Bytes)), (InvL.sA1, [0x62], some [0x63])].map
      (attOfT InvL.toyHash)) ∧
    addAttachments InvL.toyHash InvL.sNode
      [(InvL.sSubj, [0x61], none), (InvL.sA1, [0x62], some [0x63])] = .ok r := by
  obtain ⟨r, hr⟩ := addAttachments_total toyHash sNode_inv
    [(sSubj, [0x61], none), (sA1, [0x62], some [0x63])]
  obtain ⟨⟨hk, hd, _⟩, ⟨hnone, hne⟩, _⟩ := sample_atts
  simp only [List.pairwise_cons, List.mem_cons, List.not_mem_nil, or_false, forall_eq_or_imp,
    forall_eq] at hne
  refine ⟨r, sNode_inv, ?_, hnone, ?_, ?_, hr⟩
  · simp only [List.mem_cons, List.not_mem_nil, or_false, forall_eq_or_imp, forall_eq]
    exact ⟨⟨hk, fun _ hc => nomatch hc⟩, hk, fun _ hc => Option.some.inj hc ▸ hd⟩
  · simp only [sNode, Env.assertions, List.mem_cons, List.not_mem_nil, or_false, forall_eq_or_imp,
      forall_eq, sample_att2]
    exact ⟨⟨hne.1.2.1, hne.1.2.2⟩, hne.2.1.1, hne.2.1.2⟩
  · apply digInj_of_pairwise
    simp only [List.map_cons, List.map_nil, sample_att2, List.pairwise_cons, List.mem_cons,
      List.not_mem_nil, or_false, forall_eq, false_imp_iff, implies_true, List.Pairwise.nil, and_true]
    exact hne.2.2.1

/-- the hypotheses of `c19_attachments_exact` / `c19_filter_exact` follow from those of
`c19_attachments_exact_fresh`, which the sample above satisfies -/
example {h : Hash} {e : Env} {L : List (Env × Bytes × Option Bytes)}
    (hnone : assertionsWithPredicate e (newKnownValue h KV_ATTACHMENT) = [])
    (hfresh : ∀ x ∈ e.assertions, ∀ t ∈ L, x.digest ≠ (attOfT h t).digest) :
    (∀ a ∈ assertionsWithPredicate e (newKnownValue h KV_ATTACHMENT), validateAttachment h a = .ok ()) ∧
    (∀ x ∈ e.assertions, ∀ t ∈ L, x.digest = (attOfT h t).digest → x = attOfT h t) :=
  ⟨by rw [hnone]; intro a ha; exact absurd ha List.not_mem_nil,
    fun x hx t ht hd => absurd hd (hfresh x hx t ht)⟩

theorem c19_single_none_err {h : Hash} {e : Env} {vendor conf : Option Bytes}
    (hl : attachmentsWith h e vendor conf = .ok []) :
    attachmentWith h e vendor conf = .err "NonexistentAttachment" := by
  simp [attachmentWith, hl, Res.bind]

theorem c19_single_one_ok {h : Hash} {e a : Env} {vendor conf : Option Bytes}
    (hl : attachmentsWith h e vendor conf = .ok [a]) :
    attachmentWith h e vendor conf = .ok a := by
  simp [attachmentWith, hl, Res.bind]

theorem c19_single_many_err {h : Hash} {e : Env} {l : List Env} {vendor conf : Option Bytes}
    (hl : attachmentsWith h e vendor conf = .ok l) (h2 : 2 ≤ l.length) :
    attachmentWith h e vendor conf = .err "AmbiguousAttachment" := by
  match l, h2 with
  | a :: b :: l, _ => simp [attachmentWith, hl, Res.bind]

theorem c19_single_err_propagates {h : Hash} {e : Env} {x : String} {vendor conf : Option Bytes}
    (hl : attachmentsWith h e vendor conf = .err x) :
    attachmentWith h e vendor conf = .err x := by
  simp [attachmentWith, hl, Res.bind]

example : ∃ (l : List Env), 2 ≤ l.length := ⟨[default, default], by decide⟩

/-- (a) an element that is not an assertion, e.g. an attachment assertion that carries
assertions of its own, which the query still selects (`c19_malformed_decorated`) -/
theorem c19_malformed_not_assertion (h : Hash) {a : Env} (ha : a.isAssertion = false) :
    validateAttachment h a = .err "InvalidAttachment" := by
  cases a <;> first | rfl | cases ha

theorem c19_malformed_decorated (h : Hash) (e payload : Env) (v : Bytes) (c : Option Bytes)
    (as : List Env) (d : Digest) (hm : Env.node (attachmentOf h payload v c) as d ∈ e.assertions)
    (vendor conf : Option Bytes) :
    Env.node (attachmentOf h payload v c) as d ∈
      assertionsWithPredicate e (newKnownValue h KV_ATTACHMENT) ∧
    validateAttachment h (.node (attachmentOf h payload v c) as d) = .err "InvalidAttachment" ∧
    ∀ l, attachmentsWith h e vendor conf ≠ .ok l := by
  have hmem : Env.node (attachmentOf h payload v c) as d ∈
      assertionsWithPredicate e (newKnownValue h KV_ATTACHMENT) :=
    mem_awp.2 ⟨hm, _, _, _, rfl, rfl⟩
  have hbad := c19_malformed_not_assertion h (a := .node (attachmentOf h payload v c) as d) rfl
  refine ⟨hmem, hbad, ?_⟩
  intro l hl
  have := ((attachmentsWith_ok_iff h e vendor conf l).1 hl).1 _ hmem
  rw [hbad] at this; cases this

example (h : Hash) (s payload x : Env) (v : Bytes) (d d' : Digest) :
    Env.node (attachmentOf h payload v none) [x] d ∈
      (Env.node s [Env.node (attachmentOf h payload v none) [x] d] d').assertions :=
  List.mem_singleton.2 rfl

/-- (b) the object is not a wrapped envelope -/
theorem c19_malformed_not_wrapped (h : Hash) (p o : Env) (d : Digest) (ho : o.subject.isWrapped = false) :
    validateAttachment h (.assertion p o d) = .err "NotWrapped" := by
  rw [validateAttachment_assertion, unwrap]
  cases hs : o.subject <;> first | rfl | (rw [hs] at ho; cases ho)

example : (newLeaf InvL.toyHash (.uint 1)).subject.isWrapped = false := rfl

/-- (c) no vendor assertion, or more than one -/
theorem c19_malformed_vendor_count (h : Hash) (p o : Env) (d : Digest) {payload : Env}
    (hp : unwrap o = .ok payload) :
    (assertionsWithPredicate o (newKnownValue h KV_VENDOR) = [] →
      validateAttachment h (.assertion p o d) = .err "NonexistentPredicate") ∧
    (2 ≤ (assertionsWithPredicate o (newKnownValue h KV_VENDOR)).length →
      validateAttachment h (.assertion p o d) = .err "AmbiguousPredicate") := by
  rw [validateAttachment_assertion, hp, Res.ok_bind, extractTextObjectForPredicate_eq]
  exact ⟨fun h0 => by rw [assertionWithPredicate_nil h0]; rfl,
    fun h2 => by rw [assertionWithPredicate_many h2]; rfl⟩

example : unwrap (wrap InvL.toyHash InvL.sSubj) = .ok InvL.sSubj ∧
    assertionsWithPredicate (wrap InvL.toyHash InvL.sSubj) (newKnownValue InvL.toyHash KV_VENDOR) = [] ∧
    unwrap (nodeOf InvL.toyHash (wrap InvL.toyHash InvL.sSubj)
      [vendorAssertion InvL.toyHash [0x61], vendorAssertion InvL.toyHash [0x62]]) = .ok InvL.sSubj ∧
    2 ≤ (assertionsWithPredicate (nodeOf InvL.toyHash (wrap InvL.toyHash InvL.sSubj)
      [vendorAssertion InvL.toyHash [0x61], vendorAssertion InvL.toyHash [0x62]])
        (newKnownValue InvL.toyHash KV_VENDOR)).length :=
  ⟨rfl, rfl, rfl, by decide +kernel⟩

/-- (d) the vendor is not a text string (the extraction's error is returned), or the element the
vendor lookup selects is not itself an assertion (e.g. it carries assertions of its own).  The second
clause holds of the model only: its `extractTextObjectForPredicate` takes `asObject` of the
element itself, whereas the library's `extract_object_for_predicate` is
`object_for_predicate(p)?.extract_subject()`, which goes through `subject()` and reads the vendor
of such an element. -/
theorem c19_malformed_vendor_not_text (h : Hash) (p o : Env) (d : Digest) {payload x : Env}
    (hp : unwrap o = .ok payload)
    (hl : assertionsWithPredicate o (newKnownValue h KV_VENDOR) = [x]) :
    (∀ q ob d' m, x = .assertion q ob d' → extractText ob = .err m →
      validateAttachment h (.assertion p o d) = .err m) ∧
    (x.isAssertion = false → validateAttachment h (.assertion p o d) = .err "NotAssertion") := by
  rw [validateAttachment_assertion, hp, Res.ok_bind, extractTextObjectForPredicate_eq,
    assertionWithPredicate_single hl, Res.ok_bind]
  constructor
  · rintro q ob d' m rfl hm
    show (extractText ob).bind _ = _
    rw [hm]; rfl
  · intro hx
    have : asObject x = none := by cases x <;> first | rfl | cases hx
    rw [this]; rfl

example : unwrap (nodeOf InvL.toyHash (wrap InvL.toyHash InvL.sSubj)
      [newAssertion InvL.toyHash (newKnownValue InvL.toyHash KV_VENDOR) (newLeaf InvL.toyHash (.uint 5))])
      = .ok InvL.sSubj ∧
    assertionsWithPredicate (nodeOf InvL.toyHash (wrap InvL.toyHash InvL.sSubj)
      [newAssertion InvL.toyHash (newKnownValue InvL.toyHash KV_VENDOR) (newLeaf InvL.toyHash (.uint 5))])
      (newKnownValue InvL.toyHash KV_VENDOR) =
      [newAssertion InvL.toyHash (newKnownValue InvL.toyHash KV_VENDOR) (newLeaf InvL.toyHash (.uint 5))] ∧
    extractText (newLeaf InvL.toyHash (.uint 5)) = .err "dep:WrongType" := by
  refine ⟨rfl, ?_, rfl⟩
  simp [assertionsWithPredicate, nodeOf, Env.assertions, newAssertion, Env.subject, asPredicate]

/-- (e) all three fields read back but the attachment rebuilt from them has another digest -/
theorem c19_malformed_digest (h : Hash) {a payload : Env} {v : Bytes} {c : Option Bytes}
    (hp : attachmentPayload a = .ok payload) (hv : attachmentVendor h a = .ok v)
    (hc : attachmentConformsTo h a = .ok c)
    (hne : (attachmentOf h payload v c).digest ≠ a.digest) :
    validateAttachment h a = .err "InvalidAttachment" := by
  cases a with
  | assertion p o d =>
    simp only [attachmentPayload, attachmentVendor, attachmentConformsTo] at hp hv hc
    rw [validateAttachment_assertion, hp, hv, hc]
    exact if_neg fun hb => hne (eq_of_beq hb)
  | _ => cases hp

/-- (e), concretely: one more assertion on the object of a good attachment (not a vendor or
conformsTo assertion), the digest of the result differing from the original's (a
collision-freedom fact) -/
theorem c19_malformed_extra_assertion {h : Hash} {payload x o' : Env} {v : Bytes} {c : Option Bytes}
    (hg : AttGood h v c) (hs : x.slotOk = true)
    (hx : ∀ q ob d, x.subject = .assertion q ob d →
      q.digest ≠ (newKnownValue h KV_VENDOR).digest ∧ q.digest ≠ (newKnownValue h KV_CONFORMS_TO).digest)
    (hfresh : ∀ y ∈ (attachmentObject h payload v c).assertions, y.digest ≠ x.digest)
    (ho : addAssertionEnvelope h (attachmentObject h payload v c) x = .ok o')
    (hne : (attachmentOf h payload v c).digest ≠
      (newAssertion h (newKnownValue h KV_ATTACHMENT) o').digest) :
    validateAttachment h (newAssertion h (newKnownValue h KV_ATTACHMENT) o') = .err "InvalidAttachment" := by
  -- `x` is under neither key, so the two lookups on `o'` are those on the original object
  have hlv := awp_add_perm (newKnownValue h KV_VENDOR) hfresh ho
  have hlc := awp_add_perm (newKnownValue h KV_CONFORMS_TO) hfresh ho
  rw [matchesPred_false_of fun q ob d hq => (hx q ob d hq).1, vendor_lookup hg, if_neg nofun,
    List.append_nil] at hlv
  rw [matchesPred_false_of fun q ob d hq => (hx q ob d hq).2, conformsTo_lookup hg, if_neg nofun,
    List.append_nil] at hlc
  refine c19_malformed_digest h (payload := payload) ?_
    (extractVendor_of_lookup (List.perm_singleton.1 hlv))
    (extractConf_of_lookup (List.perm_eq_of_length_le_one hlc (by cases c <;> simp [confList]))) hne
  show unwrap o' = _
  rw [unwrap, add_subject ho]
  rfl

example : ∃ o', AttGood InvL.toyHash [0x61] none ∧
    (newAssertion InvL.toyHash (newKnownValue InvL.toyHash KV_NOTE) (newLeaf InvL.toyHash (.uint 1))).slotOk = true ∧
    (∀ q ob d, (newAssertion InvL.toyHash (newKnownValue InvL.toyHash KV_NOTE)
        (newLeaf InvL.toyHash (.uint 1))).subject = .assertion q ob d →
      q.digest ≠ (newKnownValue InvL.toyHash KV_VENDOR).digest ∧
      q.digest ≠ (newKnownValue InvL.toyHash KV_CONFORMS_TO).digest) ∧
    (∀ y ∈ (attachmentObject InvL.toyHash InvL.sSubj [0x61] none).assertions, y.digest ≠
      (newAssertion InvL.toyHash (newKnownValue InvL.toyHash KV_NOTE) (newLeaf InvL.toyHash (.uint 1))).digest) ∧
    addAssertionEnvelope InvL.toyHash (attachmentObject InvL.toyHash InvL.sSubj [0x61] none)
      (newAssertion InvL.toyHash (newKnownValue InvL.toyHash KV_NOTE) (newLeaf InvL.toyHash (.uint 1))) = .ok o' ∧
    (attachmentOf InvL.toyHash InvL.sSubj [0x61] none).digest ≠
      (newAssertion InvL.toyHash (newKnownValue InvL.toyHash KV_ATTACHMENT) o').digest := by
  obtain ⟨⟨hk, _⟩, _, ⟨hnv, hnc, hvn, hle, hne⟩, _⟩ := sample_atts
  have hfresh : ∀ y ∈ (attachmentObject toyHash sSubj [0x61] none).assertions, y.digest ≠
      (newAssertion toyHash (newKnownValue toyHash KV_NOTE) (newLeaf toyHash (.uint 1))).digest :=
    fun y hy => List.mem_singleton.1 hy ▸ hvn
  refine ⟨_, ⟨hk, fun _ hc => nomatch hc⟩, rfl, ?_, hfresh, add_eq _ _ rfl, ?_⟩
  · intro q ob d hq
    obtain ⟨rfl, _, _⟩ := Env.assertion.inj hq
    exact ⟨hnv, hnc⟩
  · rw [if_neg (by rw [any_digest_false_iff.2 hfresh]; exact Bool.false_ne_true)]
    show _ ≠ (newAssertion toyHash _ (nodeOf toyHash _ (sortByDigest [_, _]))).digest
    rw [sortByDigest_pair, if_neg hle]
    exact hne

/-- `validate_attachment` and the attachment queries never panic; an invalid attachment
assertion anywhere makes the list query (with any filter) fail, with the error of the first
invalid one in stored order -/
theorem c19_invalid_propagates (h : Hash) (e : Env) (vendor conf : Option Bytes) :
    (∀ a x, validateAttachment h a ≠ .panic x) ∧
    (∀ x, attachmentsWith h e vendor conf ≠ .panic x) ∧
    ((∃ a ∈ assertionsWithPredicate e (newKnownValue h KV_ATTACHMENT), validateAttachment h a ≠ .ok ()) →
      ∃ x, attachmentsWith h e vendor conf = .err x) ∧
    (∀ l1 a l2 x, assertionsWithPredicate e (newKnownValue h KV_ATTACHMENT) = l1 ++ a :: l2 →
      (∀ b ∈ l1, validateAttachment h b = .ok ()) → validateAttachment h a = .err x →
      attachmentsWith h e vendor conf = .err x) := by
  have hnp := attachmentsWith_ne_panic h e vendor conf
  refine ⟨validateAttachment_ne_panic h, hnp, ?_, ?_⟩
  · rintro ⟨a, ha, hbad⟩
    refine Res.err_of_ne_panic hnp fun l hl => hbad ?_
    exact ((attachmentsWith_ok_iff h e vendor conf l).1 hl).1 a ha
  · intro l1 a l2 x hl h1 ha
    rw [attachmentsWith_eq, hl, validateAll_first_err h h1 ha]
    rfl

/-- `types` (the objects of the 'isA' assertions), `has_type_envelope` and `add_type` never fail;
`get_type` never panics -/
theorem c19_types_total (h : Hash) (e t : Env) :
    types h e = .ok ((assertionsWithPredicate e (newKnownValue h KV_IS_A)).filterMap
      fun a => asObject a.subject) ∧
    (∃ b, hasTypeEnvelope h e t = .ok b) ∧ (∀ x, getType h e ≠ .panic x) ∧
    (∃ r, addType h e t = .ok r) :=
  ⟨types_eq h e, ⟨_, hasTypeEnvelope_eq h e t⟩, getType_ne_panic h e, addAssertionUnwrap_isOk h e _ _⟩

/-- a type is reported iff it is (by digest) the object of one of the 'isA' assertions -/
theorem c19_hasType_iff {h : Hash} {e t : Env} {b : Bool} (hb : hasTypeEnvelope h e t = .ok b) :
    b = true ↔ ∃ a ∈ e.assertions, ∃ q o d, a.subject = .assertion q o d ∧
      q.digest = (newKnownValue h KV_IS_A).digest ∧ o.digest = t.digest := by
  cases (hasTypeEnvelope_eq h e t).symm.trans hb
  exact hasType_iff

/-- a type added is reported, under `hcross` (head comment) -/
theorem c19_addType_hasType {h : Hash} {e t r : Env} (hi : Inv h e)
    (hcross : ∀ x ∈ e.assertions, x.digest = (isAAssertion h t).digest → x = isAAssertion h t)
    (hr : addType h e t = .ok r) : hasTypeEnvelope h r t = .ok true := by
  rw [hasTypeEnvelope_eq, hasType_iff.2 ⟨isAAssertion h t, ?_, _, t, _, rfl, rfl, rfl⟩]
  rw [add_assertions (addType_eq h e t ▸ hr)]
  exact mem_normAdd_self hcross

example : Inv InvL.toyHash InvL.sNode ∧
    (∀ x ∈ InvL.sNode.assertions, x.digest = (isAAssertion InvL.toyHash InvL.sSubj).digest →
      x = isAAssertion InvL.toyHash InvL.sSubj) :=
  ⟨sNode_inv, fun x hx hd => absurd hd (sample_atts.2.2.2.1 x hx)⟩

/-- the hypothesis `hcross` cannot be dropped: with the `'isA': t` assertion present in elided
form, `add_type(t)` leaves the envelope as it is and `has_type(t)` answers false -/
theorem c19_addType_elided_witness :
    ∃ (h : Hash) (e t r : Env), Inv h e ∧ addType h e t = .ok r ∧ r = e ∧
      hasTypeEnvelope h r t = .ok false := by
  obtain ⟨r, hr⟩ := (c19_types_total InvL.toyHash elidedIsAEnv InvL.sSubj).2.2.2
  have hre : r = elidedIsAEnv := by
    rw [addType_eq] at hr
    exact AW.add_ok_of_present (e := elidedIsAEnv) (a := isAAssertion toyHash sSubj)
      ⟨_, List.mem_cons_self, rfl⟩ hr
  refine ⟨InvL.toyHash, elidedIsAEnv, InvL.sSubj, r, elidedIsAEnv_inv, hr, hre, ?_⟩
  rw [hre, hasTypeEnvelope_eq]
  rfl

/-- adding a type does not change the answer for any other type -/
theorem c19_addType_other {h : Hash} {e t t' r : Env} (hi : Inv h e) (hne : t'.digest ≠ t.digest)
    (hr : addType h e t = .ok r) : hasTypeEnvelope h r t' = hasTypeEnvelope h e t' := by
  rw [hasTypeEnvelope_eq, hasTypeEnvelope_eq, Res.ok.injEq, Bool.eq_iff_iff, hasType_iff, hasType_iff,
    add_assertions (addType_eq h e t ▸ hr)]
  constructor
  · rintro ⟨a, ha, q, o, d, hs, hq, hd⟩
    rcases mem_normAdd_sub ha with ha | rfl
    · exact ⟨a, ha, q, o, d, hs, hq, hd⟩
    · obtain ⟨_, rfl, _⟩ := Env.assertion.inj hs
      exact absurd hd.symm hne
  · rintro ⟨a, ha, rest⟩
    exact ⟨a, AW.mem_normAdd_of_mem ha, rest⟩

/-- `get_type`: the type when there is exactly one, `AmbiguousType` otherwise (none included) -/
theorem c19_getType_spec (h : Hash) (e : Env) :
    (∀ t, types h e = .ok [t] → getType h e = .ok t) ∧
    (∀ ts, types h e = .ok ts → ts.length ≠ 1 → getType h e = .err "AmbiguousType") := by
  constructor
  · intro t ht; simp [getType, ht]
  · intro ts hts hl
    unfold getType
    rw [hts]
    match ts, hl with
    | [], _ => rfl
    | a :: b :: l, _ => rfl

/-- after `add_type(t)` on an envelope without types, `get_type` returns `t` -/
theorem c19_getType_single {h : Hash} {e t r : Env} (hi : Inv h e)
    (hnone : assertionsWithPredicate e (newKnownValue h KV_IS_A) = [])
    (hfresh : ∀ x ∈ e.assertions, x.digest ≠ (isAAssertion h t).digest)
    (hr : addType h e t = .ok r) : getType h r = .ok t := by
  have h1 := awp_add_single hfresh hnone (beq_self_eq_true _) (addType_eq h e t ▸ hr)
  exact (c19_getType_spec h r).1 t (by rw [types_eq, h1]; rfl)

/-- after two `add_type`s with different types on an envelope without types, `get_type`
reports `AmbiguousType` -/
theorem c19_getType_ambiguous {h : Hash} {e t1 t2 r1 r2 : Env} (hi : Inv h e)
    (hnone : assertionsWithPredicate e (newKnownValue h KV_IS_A) = [])
    (hf1 : ∀ x ∈ e.assertions, x.digest ≠ (isAAssertion h t1).digest)
    (hf2 : ∀ x ∈ e.assertions, x.digest ≠ (isAAssertion h t2).digest)
    (hne : (isAAssertion h t1).digest ≠ (isAAssertion h t2).digest)
    (hr1 : addType h e t1 = .ok r1) (hr2 : addType h r1 t2 = .ok r2) :
    getType h r2 = .err "AmbiguousType" := by
  rw [addType_eq] at hr1 hr2
  have h1 := awp_add_single hf1 hnone (beq_self_eq_true _) hr1
  have hf2' : ∀ x ∈ r1.assertions, x.digest ≠ (isAAssertion h t2).digest := by
    intro x hx
    rcases mem_normAdd_sub (add_assertions hr1 ▸ hx) with hx | rfl
    · exact hf2 x hx
    · exact hne
  have h2 := awp_add_perm (newKnownValue h KV_IS_A) hf2' hr2
  rw [h1, show matchesPred (isAAssertion h t2) (newKnownValue h KV_IS_A) = true from
    beq_self_eq_true _] at h2
  refine (c19_getType_spec h r2).2 _ (types_eq h r2) ?_
  rw [(h2.filterMap fun a => asObject a.subject).length_eq]
  exact Nat.succ_ne_self 1

example : Inv InvL.toyHash InvL.sSubj ∧
    assertionsWithPredicate InvL.sSubj (newKnownValue InvL.toyHash KV_IS_A) = [] ∧
    (∀ x ∈ InvL.sSubj.assertions, x.digest ≠ (isAAssertion InvL.toyHash InvL.sSubj).digest) ∧
    (∀ x ∈ InvL.sSubj.assertions, x.digest ≠ (isAAssertion InvL.toyHash InvL.sA3).digest) ∧
    (isAAssertion InvL.toyHash InvL.sSubj).digest ≠ (isAAssertion InvL.toyHash InvL.sA3).digest :=
  ⟨sSubj_inv, rfl, fun _ hx => (List.not_mem_nil hx).elim, fun _ hx => (List.not_mem_nil hx).elim,
    sample_atts.2.2.2.2⟩

section Container
variable (h : Hash)

/-- what `try_from_envelope` reads are assertion elements of the envelope -/
theorem attachmentsOfEnvelope_mem {e : Env} {as : List Env} (hr : attachmentsOfEnvelope h e = .ok as) :
    ∀ a ∈ as, a ∈ e.assertions := by
  intro a ha
  rw [((attachmentsWith_ok_iff h e none none as).1 hr).2] at ha
  exact (mem_awp.1 (List.mem_filter.1 ha).1).1

/-- writing an envelope's own attachments back changes nothing (the container's iteration order is irrelevant:
every element is present already) -/
theorem c19_container_writes_back {e : Env} {as : List Env} (hi : Inv h e)
    (hr : attachmentsOfEnvelope h e = .ok as) : addToEnvelope h as e = .ok e := by
  simp only [addToEnvelope, addAll_present h e hi.2 as (attachmentsOfEnvelope_mem h hr)]

/-- ... also in any other order and with repetitions -/
theorem c19_container_writes_back_any_order {e : Env} {as as' : List Env} (hi : Inv h e)
    (hr : attachmentsOfEnvelope h e = .ok as) (hsub : ∀ a ∈ as', a ∈ as) : addToEnvelope h as' e = .ok e := by
  simp only [addToEnvelope, addAll_present h e hi.2 as'
    (fun a ha => attachmentsOfEnvelope_mem h hr a (hsub a ha))]

/-- the order in which the container yields its attachments does not matter for any target envelope (the
container is keyed by digest, so its values have pairwise distinct digests) -/
theorem c19_container_order_independent (e : Env) (l1 l2 : List Env) (hi : Inv h e)
    (hmem : ∀ a, a ∈ l1 ↔ a ∈ l2) (hinj : ∀ a ∈ l1, ∀ b ∈ l1, a.digest = b.digest → a = b) :
    addToEnvelope h l1 e = addToEnvelope h l2 e := by
  simp only [addToEnvelope, addAll_perm_strong h e l1 l2 hi hmem hinj]

end Container

end EnvVerif
