/-
  Props/C08.lean — symmetric encryption (`src/extension/encrypt.rs`).

  "For any envelope and key, encrypting the subject (or the wrapped whole) and decrypting with
  the same key returns an envelope identical to the original, and the encrypted form has the
  original's digest. Decrypting with another key, or after any change to ciphertext, nonce,
  authentication tag or declared digest, fails with an error instead of returning an envelope; a
  ciphertext whose plaintext does not hash to the digest it declares is rejected on decryption; a
  subject that is already encrypted is refused a second encryption."
  (For a changed ciphertext or tag the theorem is a disjunction: `decrypt_tampered_ciphertext_or_tag`.)

  Hypotheses (never axioms).
  * `Inv h e` and `hH : ∀ b, (h.H b).Valid` — the hash returns 32 bytes (SHA-256 does), so that the
    digest written into the additional data reads back; that read-back (`AadReadsBack`) is *proved*
    for the model codec (`Obs.aadReadsBack`).
  * `L : AeadLaws A` (Lemmas/Laws.lean) — the idealised AEAD; `ToyDeps.toyAead` satisfies it.
  * `RoundTrips h x` — `decode h (encode x) = .ok x` for the one envelope `x` that is encrypted (the
    subject, or the wrapped whole): the conclusion of C05 `decode_encode`; why for one envelope is
    said at `RoundTrips`.

  `encryptSubject_ok_iff` records: `encrypt_subject` refuses a bare elided envelope (`AlreadyElided`)
  but accepts a *node* whose subject is elided (it encrypts the 32-byte placeholder); in the node case
  only an already encrypted subject is refused.  The round trip holds there too.
-/
import EnvVerif.Lemmas.ObscureLemmas
namespace EnvVerif
open Env ToyDeps Obs.Ex

section
variable (h : Hash) (A : Aead)

/-- exact refusal conditions: an already encrypted subject, or a bare elided envelope -/
theorem encryptSubject_ok_iff (k n : Bytes) (e : Env) (hi : Inv h e) (hH : ∀ b, (h.H b).Valid) :
    (∃ r, encryptSubject h A k n e = .ok r) ↔
      (e.subject.isEncrypted = false ∧ e.isElided = false) := by
  rw [Obs.encryptSubject_eq_of_hashValid h A k n hi hH, ← Obs.encryptRefusal_eq_none]
  cases Obs.encryptRefusal e <;> simp

/- satisfiable: toy hash, toy AEAD, the node `"a" [ 1: "a" ]` -/
example : ∃ r, encryptSubject toyHash toyAead [1] [2] nd = .ok r :=
  (encryptSubject_ok_iff toyHash toyAead [1] [2] nd nd_inv toyHash_valid).mpr ⟨rfl, rfl⟩

theorem encryptSubject_err_iff (k n : Bytes) (e : Env) (x : String) (hi : Inv h e)
    (hH : ∀ b, (h.H b).Valid) :
    encryptSubject h A k n e = .err x ↔
      (x = "AlreadyEncrypted" ∧ e.subject.isEncrypted = true) ∨
      (x = "AlreadyElided" ∧ e.isElided = true) := by
  rw [Obs.encryptSubject_eq_of_hashValid h A k n hi hH, ← Obs.encryptRefusal_eq_some]
  cases Obs.encryptRefusal e <;> simp

example : encryptSubject toyHash toyAead [1] [2] (.elided ⟨5⟩) = .err "AlreadyElided" :=
  (encryptSubject_err_iff toyHash toyAead [1] [2] (.elided ⟨5⟩) _
    (Inv.newElided _ (by simp [Digest.Valid])) toyHash_valid).mpr (Or.inr ⟨rfl, rfl⟩)

/-- no panic: neither `new_with_encrypted(..).unwrap()` nor the closing `assert_eq!` fires -/
theorem encryptSubject_never_panics (k n : Bytes) (e : Env) (hi : Inv h e) (hH : ∀ b, (h.H b).Valid)
    (s : String) : encryptSubject h A k n e ≠ .panic s := by
  rw [Obs.encryptSubject_eq_of_hashValid h A k n hi hH]
  cases Obs.encryptRefusal e <;> nofun

example (s : String) : encryptSubject toyHash toyAead [1] [2] nd ≠ .panic s :=
  encryptSubject_never_panics toyHash toyAead [1] [2] nd nd_inv toyHash_valid s

theorem encryptSubject_shape (k n : Bytes) (e r : Env) (hi : Inv h e) (hH : ∀ b, (h.H b).Valid)
    (hr : encryptSubject h A k n e = .ok r) :
    r.subject = .encrypted (encryptWithDigest A k n (encode e.subject) e.subject.digest)
        e.subject.digest ∧
      r.assertions = e.assertions ∧ r.isNode = e.isNode ∧ r.digest = e.digest := by
  obtain ⟨rfl, _⟩ := Obs.encryptSubject_ok h A k n hi hH hr
  cases e <;> exact ⟨rfl, rfl, rfl, rfl⟩

/-- C08: encryption keeps the digest.  No hypothesis: `encrypt_subject_opt` ends with
`assert_eq!(result.digest(), original_digest)`; that it cannot fire (under `Inv` and `hH`) is
`encryptSubject_never_panics`. -/
theorem encryptSubject_keeps_digest (k n : Bytes) (e r : Env)
    (hr : encryptSubject h A k n e = .ok r) : r.digest = e.digest :=
  encryptSubject_ok_digest h A hr

theorem encryptSubject_subject_encrypted (k n : Bytes) (e r : Env) (hi : Inv h e)
    (hH : ∀ b, (h.H b).Valid) (hr : encryptSubject h A k n e = .ok r) :
    r.subject.isEncrypted = true := by
  rw [(encryptSubject_shape h A k n e r hi hH hr).1]
  rfl

theorem encryptSubject_inv (k n : Bytes) (e r : Env) (hi : Inv h e) (hH : ∀ b, (h.H b).Valid)
    (hr : encryptSubject h A k n e = .ok r) : Inv h r := by
  obtain ⟨rfl, _⟩ := Obs.encryptSubject_ok h A k n hi hH hr
  exact Obs.encryptSubjectSpec_inv h A k n hi hH

example : ∃ r, encryptSubject toyHash toyAead [1] [2] nd = .ok r ∧ r.assertions = nd.assertions ∧
    r.digest = nd.digest ∧ r.subject.isEncrypted = true ∧ Inv toyHash r := by
  obtain ⟨r, hr⟩ := (encryptSubject_ok_iff toyHash toyAead [1] [2] nd nd_inv toyHash_valid).mpr ⟨rfl, rfl⟩
  exact ⟨r, hr, (encryptSubject_shape _ _ _ _ _ _ nd_inv toyHash_valid hr).2.1,
    encryptSubject_keeps_digest _ _ _ _ _ _ hr,
    encryptSubject_subject_encrypted _ _ _ _ _ _ nd_inv toyHash_valid hr,
    encryptSubject_inv _ _ _ _ _ _ nd_inv toyHash_valid hr⟩

/-- C08's last clause, whatever the key and nonce -/
theorem encrypt_twice_refused (k n k' n' : Bytes) (e r : Env) (hi : Inv h e)
    (hH : ∀ b, (h.H b).Valid) (hr : encryptSubject h A k n e = .ok r) :
    encryptSubject h A k' n' r = .err "AlreadyEncrypted" := by
  have hri := encryptSubject_inv h A k n e r hi hH hr
  rw [encryptSubject_err_iff h A k' n' r _ hri hH]
  exact Or.inl ⟨rfl, encryptSubject_subject_encrypted h A k n e r hi hH hr⟩

example : ∃ r, encryptSubject toyHash toyAead [1] [2] nd = .ok r ∧
    encryptSubject toyHash toyAead [3] [4] r = .err "AlreadyEncrypted" := by
  obtain ⟨r, hr⟩ := (encryptSubject_ok_iff toyHash toyAead [1] [2] nd nd_inv toyHash_valid).mpr ⟨rfl, rfl⟩
  exact ⟨r, hr, encrypt_twice_refused _ _ _ _ _ _ _ _ nd_inv toyHash_valid hr⟩

/-- C08: decrypting with the same key returns the identical envelope — for every subject
case (leaf, known value, wrapped, assertion, compressed, elided subject of a node, node
subject of a node), with or without assertions -/
theorem decryptSubject_encryptSubject (L : AeadLaws A) (k n : Bytes) (e r : Env) (hi : Inv h e)
    (hH : ∀ b, (h.H b).Valid) (hrt : RoundTrips h e.subject)
    (hr : encryptSubject h A k n e = .ok r) : decryptSubject h A k r = .ok e := by
  obtain ⟨rfl, _⟩ := Obs.encryptSubject_ok h A k n hi hH hr
  rw [Obs.encryptSubjectSpec_eq,
    Obs.decryptSubject_setSubject h A L k n hi rfl (hi.subject.digest_valid hH) hrt, e.setSubject_self]

/- all hypotheses hold together: a node with assertions (subject a leaf), ... -/
example : ∃ r, encryptSubject toyHash toyAead [1] [2] nd = .ok r ∧
    decryptSubject toyHash toyAead [1] r = .ok nd := by
  obtain ⟨r, hr⟩ := (encryptSubject_ok_iff toyHash toyAead [1] [2] nd nd_inv toyHash_valid).mpr ⟨rfl, rfl⟩
  exact ⟨r, hr, decryptSubject_encryptSubject _ _ toyAead_laws _ _ _ _ nd_inv toyHash_valid lf_rt hr⟩

/- ... a node whose subject is itself a node, ... -/
example : ∃ r, encryptSubject toyHash toyAead [1] [2] nd2 = .ok r ∧
    decryptSubject toyHash toyAead [1] r = .ok nd2 := by
  obtain ⟨r, hr⟩ := (encryptSubject_ok_iff toyHash toyAead [1] [2] nd2 nd2_inv toyHash_valid).mpr ⟨rfl, rfl⟩
  exact ⟨r, hr, decryptSubject_encryptSubject _ _ toyAead_laws _ _ _ _ nd2_inv toyHash_valid nd_rt hr⟩

/- ... a bare leaf -/
example : ∃ r, encryptSubject toyHash toyAead [1] [2] lf = .ok r ∧
    decryptSubject toyHash toyAead [1] r = .ok lf := by
  obtain ⟨r, hr⟩ := (encryptSubject_ok_iff toyHash toyAead [1] [2] lf lf_inv toyHash_valid).mpr ⟨rfl, rfl⟩
  exact ⟨r, hr, decryptSubject_encryptSubject _ _ toyAead_laws _ _ _ _ lf_inv toyHash_valid lf_rt hr⟩

/-- C08: another key does not decrypt -/
theorem decrypt_wrong_key (L : AeadLaws A) (k k' n : Bytes) (e r : Env) (hi : Inv h e)
    (hH : ∀ b, (h.H b).Valid) (hr : encryptSubject h A k n e = .ok r) (hk : k' ≠ k) :
    decryptSubject h A k' r = .err "dep:Decrypt_failed" := by
  have hs := (encryptSubject_shape h A k n e r hi hH hr).1
  exact Obs.decryptSubject_dec_none h A hs (Obs.decryptMsg_wrong_key L hk n _ _)

example : ∃ r, encryptSubject toyHash toyAead [1] [2] nd = .ok r ∧
    decryptSubject toyHash toyAead [9] r = .err "dep:Decrypt_failed" := by
  obtain ⟨r, hr⟩ := (encryptSubject_ok_iff toyHash toyAead [1] [2] nd nd_inv toyHash_valid).mpr ⟨rfl, rfl⟩
  exact ⟨r, hr, decrypt_wrong_key _ _ toyAead_laws _ _ _ _ _ nd_inv toyHash_valid hr (by decide)⟩

/-- C08: a message that was not sealed under this key with its own nonce and additional
data (that is what tampering by someone without the key produces) does not decrypt -/
theorem decrypt_tampered (L : AeadLaws A) (k : Bytes) (r : Env) (m : EncMsg) (d : Digest)
    (hs : r.subject = .encrypted m d)
    (hforged : ∀ p, (m.ciphertext, m.auth) ≠ A.enc k m.nonce p m.aad) :
    decryptSubject h A k r = .err "dep:Decrypt_failed" := by
  apply Obs.decryptSubject_dec_none h A hs
  cases hd : decryptMsg A k m with
  | none => rfl
  | some p => exact absurd (L.dec_only_enc _ _ _ _ _ _ hd) (hforged p)

/- a message with an empty tag was never sealed by the toy AEAD -/
example : decryptSubject toyHash toyAead [1] (.encrypted ⟨[], [], [], []⟩ ⟨0⟩) =
    .err "dep:Decrypt_failed" :=
  decrypt_tampered toyHash toyAead toyAead_laws [1] _ ⟨[], [], [], []⟩ ⟨0⟩ rfl (by
    intro p hp
    have := congrArg (fun x => x.2.length) hp
    simp [toyAead, toyEnc, zeros16] at this)

/-- ... in particular: changing the nonce of a sealed message -/
theorem decrypt_tampered_nonce (L : AeadLaws A) (k n p a n' : Bytes) (r : Env) (d : Digest)
    (hs : r.subject = .encrypted ⟨(A.enc k n p a).1, n', (A.enc k n p a).2, a⟩ d) (hn : n' ≠ n) :
    decryptSubject h A k r = .err "dep:Decrypt_failed" :=
  Obs.decryptSubject_dec_none h A hs (L.dec_other k n p a k n' a (Or.inr (Or.inl hn)))

example : decryptSubject toyHash toyAead [1]
    (.encrypted ⟨(toyAead.enc [1] [2] [3] [4]).1, [7], (toyAead.enc [1] [2] [3] [4]).2, [4]⟩ ⟨0⟩) =
    .err "dep:Decrypt_failed" :=
  decrypt_tampered_nonce toyHash toyAead toyAead_laws [1] [2] [3] [4] [7] _ ⟨0⟩ rfl (by decide)

/-- ... changing the additional data (the declared digest) of a sealed message -/
theorem decrypt_tampered_aad (L : AeadLaws A) (k n p a a' : Bytes) (r : Env) (d : Digest)
    (hs : r.subject = .encrypted ⟨(A.enc k n p a).1, n, (A.enc k n p a).2, a'⟩ d) (ha : a' ≠ a) :
    decryptSubject h A k r = .err "dep:Decrypt_failed" :=
  Obs.decryptSubject_dec_none h A hs (L.dec_other k n p a k n a' (Or.inr (Or.inr ha)))

example : decryptSubject toyHash toyAead [1]
    (.encrypted ⟨(toyAead.enc [1] [2] [3] [4]).1, [2], (toyAead.enc [1] [2] [3] [4]).2, [7]⟩ ⟨0⟩) =
    .err "dep:Decrypt_failed" :=
  decrypt_tampered_aad toyHash toyAead toyAead_laws [1] [2] [3] [4] [7] _ ⟨0⟩ rfl (by decide)

/-- ... changing the ciphertext or the tag of a sealed message: decryption fails, unless
the new pair is itself what the key seals for another plaintext under the same nonce and
additional data (which only a key holder can make; `decrypt_misdeclared` then applies) -/
theorem decrypt_tampered_ciphertext_or_tag (L : AeadLaws A) (k n p a c' t' : Bytes) (r : Env)
    (d : Digest) (hs : r.subject = .encrypted ⟨c', n, t', a⟩ d) (hne : (c', t') ≠ A.enc k n p a) :
    decryptSubject h A k r = .err "dep:Decrypt_failed" ∨
      ∃ p', p' ≠ p ∧ (c', t') = A.enc k n p' a := by
  rcases L.dec_tampered k n p a c' t' hne with hnone | ⟨p', hp, _, he⟩
  · exact Or.inl (Obs.decryptSubject_dec_none h A hs hnone)
  · exact Or.inr ⟨p', hp, he⟩

example : decryptSubject toyHash toyAead [1] (.encrypted ⟨[], [2], [], [4]⟩ ⟨0⟩) =
      .err "dep:Decrypt_failed" ∨
    ∃ p', p' ≠ [3] ∧ (([] : Bytes), ([] : Bytes)) = toyAead.enc [1] [2] p' [4] :=
  decrypt_tampered_ciphertext_or_tag toyHash toyAead toyAead_laws [1] [2] [3] [4] [] [] _ ⟨0⟩ rfl (by
    intro hp
    have := congrArg (fun x => x.2.length) hp
    simp [toyAead, toyEnc, zeros16] at this)

/-- the three lemmas above at what `encrypt_subject` produced, one changed field at a time -/
theorem decrypt_encrypted_tampered (L : AeadLaws A) (k n : Bytes) (e r : Env) (hi : Inv h e)
    (hH : ∀ b, (h.H b).Valid) (hr : encryptSubject h A k n e = .ok r) (m : EncMsg)
    (hm : m = encryptWithDigest A k n (encode e.subject) e.subject.digest) :
    r.subject = .encrypted m e.subject.digest ∧
    (∀ (r' : Env) (c' t' : Bytes) (d' : Digest),
      r'.subject = .encrypted { m with ciphertext := c', auth := t' } d' →
      (c', t') ≠ (m.ciphertext, m.auth) →
      decryptSubject h A k r' = .err "dep:Decrypt_failed" ∨
        ∃ p', p' ≠ encode e.subject ∧ (c', t') = A.enc k n p' m.aad) ∧
    (∀ (r' : Env) (n' : Bytes) (d' : Digest), r'.subject = .encrypted { m with nonce := n' } d' →
      n' ≠ n → decryptSubject h A k r' = .err "dep:Decrypt_failed") ∧
    (∀ (r' : Env) (a' : Bytes) (d' : Digest), r'.subject = .encrypted { m with aad := a' } d' →
      a' ≠ m.aad → decryptSubject h A k r' = .err "dep:Decrypt_failed") := by
  subst hm
  refine ⟨(encryptSubject_shape h A k n e r hi hH hr).1, ?_, ?_, ?_⟩
  · intro r' c' t' d' hs hne
    exact decrypt_tampered_ciphertext_or_tag h A L k n (encode e.subject) _ c' t' r' d' hs hne
  · intro r' n' d' hs hn
    exact decrypt_tampered_nonce h A L k n (encode e.subject) _ n' r' d' hs hn
  · intro r' a' d' hs ha
    exact decrypt_tampered_aad h A L k n (encode e.subject) _ a' r' d' hs ha

example : ∃ r, encryptSubject toyHash toyAead [1] [2] nd = .ok r ∧
    ∀ (r' : Env) (n' : Bytes) (d' : Digest),
      r'.subject = .encrypted { encryptWithDigest toyAead [1] [2] (encode nd.subject) nd.subject.digest
        with nonce := n' } d' → n' ≠ [2] →
      decryptSubject toyHash toyAead [1] r' = .err "dep:Decrypt_failed" := by
  obtain ⟨r, hr⟩ := (encryptSubject_ok_iff toyHash toyAead [1] [2] nd nd_inv toyHash_valid).mpr ⟨rfl, rfl⟩
  exact ⟨r, hr, (decrypt_encrypted_tampered _ _ toyAead_laws _ _ _ _ nd_inv toyHash_valid hr _ rfl).2.2.1⟩

/-- C08: the first comparison of `decrypt_subject`: content whose digest is not the one
declared in the additional data is refused -/
theorem decrypt_misdeclared (k : Bytes) (r : Env) (m : EncMsg) (d declared : Digest) (pt : Bytes)
    (x : Env) (hs : r.subject = .encrypted m d) (hd : decryptMsg A k m = some pt)
    (ho : m.optDigest = some declared) (hx : decode h pt = .ok x) (hne : x.digest ≠ declared) :
    decryptSubject h A k r = .err "InvalidDigest" := by
  rw [Obs.decryptSubject_of_encrypted h A hs, hd, ho]
  simp only [hx, Res.ok_bind]
  exact if_pos (by simpa using hne)

/- a key holder seals the leaf `"a"` under the declared digest 7 (`encrypt_with_digest` lets
one do that): refused -/
example : decryptSubject toyHash toyAead [1]
    (.encrypted (encryptWithDigest toyAead [1] [2] (encode lf) ⟨7⟩) ⟨7⟩) = .err "InvalidDigest" :=
  decrypt_misdeclared toyHash toyAead [1] _ _ ⟨7⟩ ⟨7⟩ (encode lf) lf rfl
    (Obs.decryptMsg_encryptWithDigest toyAead_laws _ _ _ _)
    (optDigest_encryptWithDigest _ _ _ _ (by simp [Digest.Valid])) lf_rt (by decide)

/-- C08: the second comparison of `decrypt_subject`: a node whose digest is not the one
recomputed over the decrypted subject and the assertions is refused -/
theorem decrypt_misdeclared_node (k : Bytes) (m : EncMsg) (ds d declared : Digest)
    (as : List Env) (pt : Bytes) (x : Env) (hd : decryptMsg A k m = some pt)
    (ho : m.optDigest = some declared) (hx : decode h pt = .ok x) (hxd : x.digest = declared)
    (hne : as ≠ []) (hnd : (mkNode h x as).digest ≠ d) :
    decryptSubject h A k (.node (.encrypted m ds) as d) = .err "InvalidDigest" := by
  subst hxd
  rw [Obs.decryptSubject_opened h A (r := .node (.encrypted m ds) as d) rfl hd ho hx, withSubject_node,
    newNodeUnchecked_eq h hne, Res.ok_bind]
  exact Obs.decFinish_node_of_ne hnd

/- the subject is honest, the node digest (9) is not the recomputed one -/
example : decryptSubject toyHash toyAead [1]
    (.node (.encrypted (encryptWithDigest toyAead [1] [2] (encode lf) lf.digest) lf.digest) [asr] ⟨9⟩) =
    .err "InvalidDigest" :=
  decrypt_misdeclared_node toyHash toyAead [1] _ lf.digest ⟨9⟩ lf.digest [asr] (encode lf) lf
    (Obs.decryptMsg_encryptWithDigest toyAead_laws _ _ _ _)
    (optDigest_encryptWithDigest _ _ _ _ (toyHash_valid _)) lf_rt rfl (by simp)
    (by rw [mkNode_of_asc _ (by simp [AscDigests])]; decide)

theorem decryptSubject_digest (k : Bytes) (r x : Env) (hw : WF h r)
    (hr : decryptSubject h A k r = .ok x) : x.digest = r.digest := by
  obtain ⟨m, d0, pt, rs, hs, _, ho, _, hx, hnode⟩ := Obs.decryptSubject_ok h A hr
  cases r with
  | node s as d => exact hnode rfl
  | encrypted m' d' =>
    -- the result is the decoded content, whose digest the message declares: by `WF` the cached one
    cases hs; cases hx
    exact Option.some.inj (ho.symm.trans ((WF_encrypted ..).1 hw))
  | _ => cases hs

example : ∃ r x, WF toyHash r ∧ decryptSubject toyHash toyAead [1] r = .ok x ∧ x.digest = r.digest := by
  obtain ⟨r, hr⟩ := (encryptSubject_ok_iff toyHash toyAead [1] [2] nd nd_inv toyHash_valid).mpr ⟨rfl, rfl⟩
  have hd := decryptSubject_encryptSubject _ _ toyAead_laws _ _ _ _ nd_inv toyHash_valid lf_rt hr
  have hw := (encryptSubject_inv _ _ _ _ _ _ nd_inv toyHash_valid hr).1
  exact ⟨r, nd, hw, hd, decryptSubject_digest _ _ _ _ _ hw hd⟩

/-- **decrypting the subject opens the subject and nothing else**: an assertion element that is itself
encrypted (under this very key or another), compressed or elided comes back as it stood -/
theorem decryptSubject_keeps_assertions (k : Bytes) (r x : Env) (hc : Canon r) (hn : r.isNode = true)
    (hr : decryptSubject h A k r = .ok x) : x.assertions = r.assertions := by
  obtain ⟨_, _, _, rs, _, _, _, _, hw, _⟩ := Obs.decryptSubject_ok h A hr
  cases r with
  | node s as d =>
    rw [withSubject_node, newNodeUnchecked_eq h hc.assertions_ne_nil] at hw
    cases hw
    exact sortByDigest_of_asc hc.asc
  | _ => cases hn

example : ∃ r x, Canon r ∧ r.isNode = true ∧ decryptSubject toyHash toyAead [1] r = .ok x ∧
    x.assertions = r.assertions := by
  obtain ⟨r, hr⟩ := (encryptSubject_ok_iff toyHash toyAead [1] [2] nd nd_inv toyHash_valid).mpr ⟨rfl, rfl⟩
  have hd := decryptSubject_encryptSubject _ _ toyAead_laws _ _ _ _ nd_inv toyHash_valid lf_rt hr
  have hinv := encryptSubject_inv _ _ _ _ _ _ nd_inv toyHash_valid hr
  have hnode : r.isNode = true := by
    rw [(encryptSubject_shape _ _ _ _ _ _ nd_inv toyHash_valid hr).2.2.1]; rfl
  exact ⟨r, nd, hinv.2, hnode, hd, decryptSubject_keeps_assertions _ _ _ _ _ hinv.2 hnode hd⟩

theorem decryptSubject_not_encrypted (k : Bytes) (r : Env) (hs : r.subject.isEncrypted = false) :
    decryptSubject h A k r = .err "NotEncrypted" :=
  Obs.decryptSubject_not_encrypted h A hs

example : decryptSubject toyHash toyAead [1] lf = .err "NotEncrypted" :=
  decryptSubject_not_encrypted _ _ _ _ rfl

/-- no panic: the decoder never panics and a canonical node has an assertion -/
theorem decryptSubject_no_panic (k : Bytes) (r : Env) (hc : Canon r) (s : String) :
    decryptSubject h A k r ≠ .panic s :=
  Obs.decryptSubject_ne_panic h A hc s

example (s : String) : decryptSubject toyHash toyAead [1] nd ≠ .panic s :=
  decryptSubject_no_panic toyHash toyAead [1] nd nd_inv.2 s

/-- `encrypt` never fails (and never panics): the wrapped envelope is neither encrypted
nor elided -/
theorem encryptWhole_succeeds (k n : Bytes) (e : Env) (hi : Inv h e) (hH : ∀ b, (h.H b).Valid) :
    ∃ r, encryptWhole h A k n e = .ok r ∧ encryptSubject h A k n (wrap h e) = .ok r := by
  obtain ⟨r, hr⟩ := (encryptSubject_ok_iff h A k n (wrap h e) hi.newWrapped hH).mpr ⟨rfl, rfl⟩
  exact ⟨r, (encryptWhole_eq_ok h A).2 hr, hr⟩

theorem encryptWhole_keeps_wrapped_digest (k n : Bytes) (e r : Env)
    (hr : encryptWhole h A k n e = .ok r) : r.digest = (wrap h e).digest :=
  encryptSubject_ok_digest h A ((encryptWhole_eq_ok h A).1 hr)

/-- C08: `decrypt (encrypt e) = e` -/
theorem decryptWhole_encryptWhole (L : AeadLaws A) (k n : Bytes) (e r : Env) (hi : Inv h e)
    (hH : ∀ b, (h.H b).Valid) (hrt : RoundTrips h (wrap h e))
    (hr : encryptWhole h A k n e = .ok r) : decryptWhole h A k r = .ok e := by
  rw [decryptWhole, decryptSubject_encryptSubject h A L k n (wrap h e) r hi.newWrapped hH hrt
    ((encryptWhole_eq_ok h A).1 hr)]
  rfl

theorem decryptWhole_wrong_key (L : AeadLaws A) (k k' n : Bytes) (e r : Env) (hi : Inv h e)
    (hH : ∀ b, (h.H b).Valid) (hr : encryptWhole h A k n e = .ok r) (hk : k' ≠ k) :
    decryptWhole h A k' r = .err "dep:Decrypt_failed" := by
  rw [decryptWhole, decrypt_wrong_key h A L k k' n (wrap h e) r hi.newWrapped hH
    ((encryptWhole_eq_ok h A).1 hr) hk]
  rfl

example : ∃ r, encryptWhole toyHash toyAead [1] [2] lf = .ok r ∧
    decryptWhole toyHash toyAead [1] r = .ok lf ∧ r.digest = (wrap toyHash lf).digest ∧
    decryptWhole toyHash toyAead [9] r = .err "dep:Decrypt_failed" := by
  obtain ⟨r, hr, _⟩ := encryptWhole_succeeds toyHash toyAead [1] [2] lf lf_inv toyHash_valid
  exact ⟨r, hr, decryptWhole_encryptWhole _ _ toyAead_laws _ _ _ _ lf_inv toyHash_valid wrap_lf_rt hr,
    encryptWhole_keeps_wrapped_digest _ _ _ _ _ _ hr,
    decryptWhole_wrong_key _ _ toyAead_laws _ _ _ _ _ lf_inv toyHash_valid hr (by decide)⟩

end
end EnvVerif
