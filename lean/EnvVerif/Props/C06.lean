/-
  Props/C06.lean — the decoder accepts only canonical envelopes and never crashes.

  "For every byte string, decoding either fails with an error or yields an envelope whose
  re-encoding is exactly that byte string (the only tolerated alias being the deprecated
  leaf tag #6.24, read as #6.201).  In particular a node with no assertion, with a
  non-assertion in an assertion slot, or whose assertion elements are out of ascending
  digest order or repeat a digest, an unknown tag, a digest of the wrong length, an
  assertion map with other than one entry and non-deterministic CBOR are all rejected, as
  the specification requires; decoding bytes of bounded nesting depth never panics."

  `legacyNorm` / `legacyNormBytes` / `hasLegacyLeaf` / `NoLegacyLeaf` (Lemmas/CodecSpec.lean): #6.24
  rewritten to #6.201 at envelope leaf positions only.
  The tree-level theorems need no codec law.  The byte level needs the second dCBOR law ("what decodes
  re-encodes to the bytes it was read from"), which is FALSE of the model codec, as of `dcbor` 0.17.1
  which it mirrors (`not_codecLaws`: `fa 4f 00 00 01`, the f32 2147483904.0, is accepted and read as
  the integer 2147483904).  Hence
  * the byte-level theorems take the law *at the input concerned* (`EncDecAt b`; satisfiable: see the
    example after `not_codecLaws`);
  * the law is *proved* for the model codec at every input whose dCBOR tree is `Cbor.Plain` (no float
    node, no `uint` above 2^31, no `nint` from 2^63: `Cbor.encDec_of_plain`), which gives the
    hypothesis-free `decode_exact_plain` and `reject_noncanonical_cbor_plain`: a byte string that is
    not the encoding of a valid tree is refused, or else the dCBOR layer reads a tree out of it that is
    not `Plain` (the theorem does not say where in the input the non-canonical part lies);
  * the unrestricted `decode_exact_full_statement` is refuted (`decode_exact_full_statement_false`):
    the envelope decoder accepts `d8c8 d8c9 fa4f000001` and re-encodes it as `d8c8 d8c9 1a80000100`.
    A genuine finding about the implementation (cause: `validate_canonical_f32/f64` in `dcbor`).
-/
import EnvVerif.Lemmas.CodecLemmas
import EnvVerif.Lemmas.CodecPlain
namespace EnvVerif
open Env

section
variable (h : Hash)

/-- C06 core, on trees: what the decoder accepts re-encodes to the tree it was read from, up to the
`#6.24 → #6.201` leaf alias. -/
theorem envOfCbor_canonical (c : Cbor) (e : Env) (hd : envOfCbor h c = .ok e) :
    cborOf e = legacyNorm c :=
  ((envOfCbor_sat h c).of_ok hd).1

theorem envOfCborList_canonical (cs : List Cbor) (es : List Env) (hd : envOfCborList h cs = .ok es) :
    cborOfList es = legacyNormList cs ∧ es.length = cs.length :=
  have ⟨h1, _, _, _, h5⟩ := (envOfCborList_sat h cs).of_ok hd
  ⟨h1, h5⟩

theorem envOfCbor_exact (c : Cbor) (e : Env) (hd : envOfCbor h c = .ok e)
    (hl : hasLegacyLeaf c = false) : cborOf e = c := by
  rw [envOfCbor_canonical h c e hd, legacyNorm_of_no_legacy c hl]

/-- "read as #6.201": the normalised tree decodes to the same envelope -/
theorem envOfCbor_legacyNorm (c : Cbor) (e : Env) (hd : envOfCbor h c = .ok e) :
    envOfCbor h (legacyNorm c) = .ok e := by
  obtain ⟨h1, h2, h3, h4⟩ := (envOfCbor_sat h c).of_ok hd
  rw [← h1]
  exact envOfCbor_cborOf_of h e h2 h3 h4

/-- C06 with no codec law.  `legacyNormBytes b` is the encoding of `legacyNorm` of the dCBOR tree of
`b`: it is `b` up to the leaf alias only where the codec law holds at `b`. -/
theorem decode_canonical (b : Bytes) (e : Env) (hd : decode h b = .ok e) :
    encode e = legacyNormBytes b ∧ Inv h e ∧ EncShape e :=
  (decode_sat h b).of_ok hd

/-- C06, given the codec law at `b` -/
theorem decode_exact (b : Bytes) (L : EncDecAt b) (e : Env) (hd : decode h b = .ok e)
    (hl : NoLegacyLeaf b) : encode e = b := by
  rw [(decode_canonical h b e hd).1, legacyNormBytes_of_no_legacy L hl]

theorem decode_reencode (b : Bytes) (L : EncDecAt b) (e : Env) (hd : decode h b = .ok e)
    (hl : NoLegacyLeaf b) : decode h (encode e) = .ok e := by
  rw [decode_exact h b L e hd hl, hd]

/-- at most one accepted serialisation per envelope, among those without the legacy tag at which the
codec law holds -/
theorem decode_unique_bytes (b₁ b₂ : Bytes) (L₁ : EncDecAt b₁) (L₂ : EncDecAt b₂) (e : Env)
    (h₁ : decode h b₁ = .ok e) (h₂ : decode h b₂ = .ok e) (l₁ : NoLegacyLeaf b₁)
    (l₂ : NoLegacyLeaf b₂) : b₁ = b₂ := by
  rw [← decode_exact h b₁ L₁ e h₁ l₁, ← decode_exact h b₂ L₂ e h₂ l₂]

/-- `decode_exact` with no codec hypothesis, for the model codec: `Plain` excludes floats and the
integer ranges affected by the `dcbor` float defect -/
theorem decode_exact_plain (b : Bytes) (e : Env) (hd : decode h b = .ok e) (hl : NoLegacyLeaf b)
    (hp : (taggedCborOf e).Plain) : encode e = b := by
  obtain ⟨c, hc, ht⟩ := (decode_eq_ok h).1 hd
  rw [((envOfTaggedCbor_sat h c).of_ok ht).1, legacyNorm_of_no_legacy c (hl c hc)] at hp
  exact decode_exact h b (encDecAt_of_plain fun c' hc' => Except.ok.inj (hc.symm.trans hc') ▸ hp) e hd hl

/- `hp` is satisfiable: the sample (`hd`, `hl` at its encoding: the example after `not_codecLaws`) -/
example : (taggedCborOf CodecEx.sample).Plain := by
  simp [taggedCborOf, cborOf, cborOfList, CodecEx.sample, CodecEx.sWrapped, CodecEx.sLeaf,
    CodecEx.sAssert, CodecEx.sKV, CodecEx.sElided, CodecEx.sEnc, CodecEx.sComp, CodecEx.sEncMsg,
    encMsgCbor, compMsgCbor, digestCbor, Cbor.Plain, Cbor.PlainList, Cbor.PlainPairs]
  split <;> simp [Cbor.Plain, Cbor.PlainList]

/-- the unrestricted form of `decode_exact` (no codec-law hypothesis) -/
def decode_exact_full_statement : Prop :=
  ∀ (h : Hash) (b : Bytes) (e : Env), decode h b = .ok e → NoLegacyLeaf b → encode e = b

set_option maxRecDepth 100000 in
/-- FINDING.  `#6.200(#6.201(<f32 2147483904.0>))` is accepted (the dCBOR layer reads the float as the
integer 2147483904 instead of rejecting it as non-canonical) and re-encodes as
`#6.200(#6.201(2147483904))`, other bytes. -/
theorem decode_exact_full_statement_false : ¬ decode_exact_full_statement := by
  intro hf
  have hdec : Cbor.dec [0xd8, 0xc8, 0xd8, 0xc9, 0xfa, 0x4f, 0x00, 0x00, 0x01] =
      .ok (.tagged 200 (.tagged 201 (.uint 2147483904))) := by rfl
  have h1 := hf ⟨fun _ => ⟨0⟩⟩ _ (.leaf (.uint 2147483904) ⟨0⟩)
    ((decode_eq_ok _).2 ⟨_, hdec, rfl⟩) (by
      intro c hc
      rw [hdec] at hc
      cases hc
      rfl)
  exact absurd h1 (by decide)

set_option maxRecDepth 100000 in
/-- FINDING: the second law of `CodecLaws` fails for the model codec (and for `dcbor` 0.17.1) -/
theorem not_codecLaws : ¬ CodecLaws := by
  intro L
  have h1 := (L.enc_dec [0xfa, 0x4f, 0x00, 0x00, 0x01] (.uint 2147483904) (by rfl)).1
  exact absurd h1 (by decide)

/- the hypotheses of `decode_exact` are satisfiable: the 172-byte encoding of the sample.  The last
two hold at the encoding of every valid tree without the legacy tag. -/
set_option maxRecDepth 100000 in
example : decode CodecEx.toyH (encode CodecEx.sample) = .ok CodecEx.sample ∧
    NoLegacyLeaf (encode CodecEx.sample) ∧ EncDecAt (encode CodecEx.sample) := by
  have hv := taggedCborOf_valid CodecEx.sample_encodable CodecEx.sample_encShape
  exact ⟨decode_encode_of _ _ CodecEx.sample_inv.1 CodecEx.sample_inv.2 CodecEx.sample_encShape
    CodecEx.sample_encodable, noLegacyLeaf_enc hv (by rfl), encDecAt_enc hv⟩

/- the alias: `#6.200(#6.24("a"))` is accepted and re-encodes as `#6.200(#6.201("a"))` -/
example : decode CodecEx.toyH [0xd8, 0xc8, 0xd8, 0x18, 0x61, 0x61] = .ok CodecEx.sLeaf ∧
    encode CodecEx.sLeaf = [0xd8, 0xc8, 0xd8, 0xc9, 0x61, 0x61] := ⟨by rfl, by rfl⟩

/-! ### rejection, one lemma per class named in the property -/

/-- not accepted: rejected (the decoder does not panic) -/
theorem envOfCbor_err_of_not_ok {c : Cbor} (hno : ∀ e, envOfCbor h c ≠ .ok e) : ∃ msg, envOfCbor h c = .err msg :=
  (envOfCbor_sat h c).err_of_not_ok hno

/-- what acceptance of an array says of its elements after the first; the rejections of misplaced,
misordered and repeated elements below are read off it -/
theorem array_ok_elements {x : Cbor} {rest : List Cbor} {e : Env}
    (he : envOfCbor h (.array (x :: rest)) = .ok e) :
    (∀ c ∈ rest, ∃ a, envOfCbor h c = .ok a ∧ a.slotOk = true) ∧
    ∀ (i j : Nat) (ci cj : Cbor) (a b : Env), i < j → rest[i]? = some ci → rest[j]? = some cj →
      envOfCbor h ci = .ok a → envOfCbor h cj = .ok b → a.digest.val < b.digest.val := by
  obtain ⟨_, _, as, hr, hasc, hall, _⟩ := (envOfCbor_array_eq_ok h).1 he
  rw [envOfCborList_eq_ok] at hr
  constructor
  · intro c hc
    obtain ⟨i, hi⟩ := List.getElem?_of_mem hc
    obtain ⟨a, ha1, ha2⟩ := hr.getElem?_left hi
    exact ⟨a, ha2, hall a (List.mem_of_getElem? ha1)⟩
  · intro i j ci cj a b hij hi hj ha hb
    obtain ⟨a', ha1, ha2⟩ := hr.getElem?_left hi
    obtain ⟨b', hb1, hb2⟩ := hr.getElem?_left hj
    cases ha.symm.trans ha2
    cases hb.symm.trans hb2
    obtain ⟨hil, rfl⟩ := List.getElem?_eq_some_iff.mp ha1
    obtain ⟨hjl, rfl⟩ := List.getElem?_eq_some_iff.mp hb1
    exact List.pairwise_iff_getElem.mp hasc i j hil hjl hij

/-- a node with no assertion: an array of fewer than two elements -/
theorem reject_node_arity (xs : List Cbor) (hx : xs.length < 2) :
    envOfCbor h (.array xs) = .err "node-arity" := by
  match xs, hx with
  | [], _ => simp only [envOfCbor]
  | [x], _ => simp only [envOfCbor]
  | _ :: _ :: _, hx => simp only [List.length_cons] at hx; omega

/-- a non-assertion in an assertion slot (`slotOk`: an assertion, an obscured element, or a node over
one of those) -/
theorem reject_non_assertion_slot (x : Cbor) (rest : List Cbor) (c : Cbor) (a : Env)
    (hc : c ∈ rest) (ha : envOfCbor h c = .ok a) (hslot : a.slotOk = false) :
    ∃ msg, envOfCbor h (.array (x :: rest)) = .err msg := by
  refine envOfCbor_err_of_not_ok h fun e he => ?_
  obtain ⟨a', ha', hs⟩ := (array_ok_elements h he).1 c hc
  cases ha.symm.trans ha'
  rw [hslot] at hs
  cases hs

example : ∃ msg, envOfCbor CodecEx.toyH (.array [.uint 1, .uint 2]) = .err msg :=
  reject_non_assertion_slot CodecEx.toyH (.uint 1) [.uint 2] (.uint 2) (.knownValue 2 ⟨4⟩)
    (by simp) (by rfl) (by rfl)

/-- instances: a known value, a leaf (either tag), a wrapped envelope -/
theorem reject_non_assertion_shape (x : Cbor) (rest : List Cbor) (c : Cbor) (hc : c ∈ rest)
    (hs : (∃ v, c = .uint v) ∨ (∃ i, c = .tagged TAG_LEAF i) ∨ (∃ i, c = .tagged TAG_ENCODED_CBOR i) ∨
      (∃ i, c = .tagged TAG_ENVELOPE i)) :
    ∃ msg, envOfCbor h (.array (x :: rest)) = .err msg := by
  refine envOfCbor_err_of_not_ok h fun e he => ?_
  obtain ⟨a, ha, hslot⟩ := (array_ok_elements h he).1 c hc
  rcases hs with ⟨v, rfl⟩ | ⟨i, rfl⟩ | ⟨i, rfl⟩ | ⟨i, rfl⟩
  · rw [envOfCbor_uint] at ha; cases ha; cases hslot
  · rw [envOfCbor_leaf] at ha; cases ha; cases hslot
  · rw [envOfCbor_leaf24] at ha; cases ha; cases hslot
  · rw [envOfCbor_wrapped] at ha
    obtain ⟨e', _, he'⟩ := Res.bind_eq_ok.1 ha
    cases he'
    cases hslot

/-- assertion elements out of ascending digest order -/
theorem reject_misordered (x : Cbor) (rest : List Cbor) (i j : Nat) (ci cj : Cbor) (a b : Env)
    (hij : i < j) (hi : rest[i]? = some ci) (hj : rest[j]? = some cj)
    (ha : envOfCbor h ci = .ok a) (hb : envOfCbor h cj = .ok b)
    (hlt : b.digest.val < a.digest.val) :
    ∃ msg, envOfCbor h (.array (x :: rest)) = .err msg :=
  envOfCbor_err_of_not_ok h fun _ he =>
    Nat.lt_asymm hlt ((array_ok_elements h he).2 i j ci cj a b hij hi hj ha hb)

/-- two assertion elements with the same digest -/
theorem reject_repeated_digest (x : Cbor) (rest : List Cbor) (i j : Nat) (ci cj : Cbor) (a b : Env)
    (hij : i < j) (hi : rest[i]? = some ci) (hj : rest[j]? = some cj)
    (ha : envOfCbor h ci = .ok a) (hb : envOfCbor h cj = .ok b)
    (heq : a.digest = b.digest) :
    ∃ msg, envOfCbor h (.array (x :: rest)) = .err msg := by
  refine envOfCbor_err_of_not_ok h fun _ he => ?_
  have hlt := (array_ok_elements h he).2 i j ci cj a b hij hi hj ha hb
  rw [heq] at hlt
  exact Nat.lt_irrefl _ hlt

/- misordered: `[1, elided 5, elided 3]`; repeated digest: two different assertions with the
same (toy) digest -/
example : ∃ msg, envOfCbor CodecEx.toyH
    (.array [.uint 1, .bytes (Digest.bytes ⟨5⟩), .bytes (Digest.bytes ⟨3⟩)]) = .err msg :=
  reject_misordered CodecEx.toyH (.uint 1) [.bytes (Digest.bytes ⟨5⟩), .bytes (Digest.bytes ⟨3⟩)] 0 1 _ _
    (.elided ⟨5⟩) (.elided ⟨3⟩) (by omega) (by rfl) (by rfl)
    (by rw [envOfCbor_bytes, Digest.ofBytes_bytes (by simp [Digest.Valid])]; rfl)
    (by rw [envOfCbor_bytes, Digest.ofBytes_bytes (by simp [Digest.Valid])]; rfl)
    (by decide)

example : ∃ msg, envOfCbor CodecEx.toyH
    (.array [.uint 1, .map [(.uint 1, .uint 2)], .map [(.uint 1, .uint 3)]]) = .err msg :=
  reject_repeated_digest CodecEx.toyH (.uint 1) [.map [(.uint 1, .uint 2)], .map [(.uint 1, .uint 3)]] 0 1 _ _
    (newAssertion CodecEx.toyH (newKnownValue CodecEx.toyH 1) (newKnownValue CodecEx.toyH 2))
    (newAssertion CodecEx.toyH (newKnownValue CodecEx.toyH 1) (newKnownValue CodecEx.toyH 3))
    (by omega) (by rfl) (by rfl)
    (by rw [envOfCbor_map_one, envOfCbor_uint, envOfCbor_uint]; rfl)
    (by rw [envOfCbor_map_one, envOfCbor_uint, envOfCbor_uint]; rfl)
    (by simp only [newAssertion, Env.digest, CodecEx.toyH, Hash.ofDigests, catDigests_length,
      List.length_cons])

/-- the same element twice (whether or not it decodes) -/
theorem reject_repeated_element (x : Cbor) (rest : List Cbor) (i j : Nat) (c : Cbor)
    (hij : i < j) (hi : rest[i]? = some c) (hj : rest[j]? = some c) :
    ∃ msg, envOfCbor h (.array (x :: rest)) = .err msg := by
  refine envOfCbor_err_of_not_ok h fun e he => ?_
  obtain ⟨a, ha, _⟩ := (array_ok_elements h he).1 c (List.mem_of_getElem? hi)
  exact Nat.lt_irrefl _ ((array_ok_elements h he).2 i j c c a a hij hi hj ha ha)

/-- adjacent form, on the decoded elements: exactly the check the decoder performs -/
theorem reject_adjacent_not_ascending (x y : Cbor) (r : List Cbor) (s : Env) (as : List Env)
    (hx : envOfCbor h x = .ok s) (hr : envOfCborList h (y :: r) = .ok as) (hasc : ascAdj as = false) :
    envOfCbor h (.array (x :: y :: r)) = .err "assertions-not-ascending" := by
  simp [envOfCbor_array, hx, hr, hasc]

/-- an unknown tag -/
theorem reject_unknown_tag (t : Nat) (item : Cbor) (h1 : t ≠ TAG_LEAF) (h2 : t ≠ TAG_ENCODED_CBOR)
    (h3 : t ≠ TAG_ENVELOPE) (h4 : t ≠ TAG_ENCRYPTED) (h5 : t ≠ TAG_COMPRESSED) :
    envOfCbor h (.tagged t item) = .err "unknown-tag" :=
  envOfCbor_unknown_tag h item h1 h2 h3 h4 h5

/-- a digest of the wrong length (elided element) -/
theorem reject_bad_digest_len (b : Bytes) (hb : b.length ≠ 32) :
    envOfCbor h (.bytes b) = .err "dep:digest-size" := by
  rw [envOfCbor_bytes, Digest.ofBytes?, if_neg hb]

/-- an encrypted element is refused unless its item is the serialisation of a message whose
non-empty `aad` declares a digest; the lemmas on encrypted elements below are instances -/
theorem reject_encrypted {item : Cbor}
    (hno : ∀ m : EncMsg, item = encMsgCbor m → m.aad ≠ [] → m.optDigest = none) :
    ∃ msg, envOfCbor h (.tagged TAG_ENCRYPTED item) = .err msg := by
  rw [envOfCbor_encrypted]
  refine (decodeEncrypted_sat item).err_of_not_ok fun e he => ?_
  obtain ⟨m, d, _, hitem, hd, _, _, hne⟩ := (decodeEncrypted_sat item).of_ok he
  rw [hno m hitem hne] at hd
  cases hd

/-- a compressed element is refused unless its item is the serialisation of a compressed
message with its digest; the lemmas on compressed elements below are instances -/
theorem reject_compressed {item : Cbor} (hno : ∀ (c : CompMsg) (d : Digest), item ≠ compMsgCbor c d) :
    ∃ msg, envOfCbor h (.tagged TAG_COMPRESSED item) = .err msg := by
  rw [envOfCbor_compressed]
  refine (decodeCompressed_sat item).err_of_not_ok fun e he => ?_
  obtain ⟨c, d, _, hitem, _⟩ := (decodeCompressed_sat item).of_ok he
  exact hno c d hitem

/-- a digest of the wrong length (the digest carried by a compressed element) -/
theorem reject_bad_digest_len_compressed (c s data : Cbor) (t : Nat) (b : Bytes) (hb : b.length ≠ 32) :
    ∃ msg, envOfCbor h (.tagged TAG_COMPRESSED (.array [c, s, data, .tagged t (.bytes b)])) = .err msg := by
  refine reject_compressed h fun cm d hitem => hb ?_
  simp only [compMsgCbor, digestCbor, Cbor.array.injEq, List.cons.injEq, Cbor.tagged.injEq,
    Cbor.bytes.injEq, and_true] at hitem
  rw [hitem.2.2.2.2]
  exact Digest.bytes_length d

/-- a digest of the wrong length or no digest at all in the `aad` of an encrypted element -/
theorem reject_encrypted_without_digest (ct nonce auth aad : Bytes)
    (hm : (EncMsg.mk ct nonce auth aad).optDigest = none) :
    ∃ msg, envOfCbor h (.tagged TAG_ENCRYPTED (.array [.bytes ct, .bytes nonce, .bytes auth, .bytes aad]))
      = .err msg := by
  refine reject_encrypted h fun m hitem hne => ?_
  obtain ⟨ct', nonce', auth', aad'⟩ := m
  simp only [encMsgCbor_of_aad hne, Cbor.array.injEq, List.cons.injEq, Cbor.bytes.injEq, and_true] at hitem
  obtain ⟨rfl, rfl, rfl, rfl⟩ := hitem
  exact hm

/-- an assertion map with other than one entry -/
theorem reject_map_arity (kvs : List (Cbor × Cbor)) (hk : kvs.length ≠ 1) :
    envOfCbor h (.map kvs) = .err "assertion-map-arity" := by
  match kvs, hk with
  | [], _ => simp only [envOfCbor]
  | [(k, v)], hk => simp at hk
  | _ :: _ :: _, _ => simp only [envOfCbor]

/-- an encrypted element whose array does not have exactly four items (three items is the
form without `aad`, which declares no digest; five or more is finding F2) -/
theorem reject_encrypted_extra (xs : List Cbor) (hx : xs.length ≠ 4) :
    ∃ msg, envOfCbor h (.tagged TAG_ENCRYPTED (.array xs)) = .err msg := by
  refine reject_encrypted h fun m hitem hne => absurd ?_ hx
  rw [encMsgCbor_of_aad hne] at hitem
  cases hitem
  rfl

/-- an encrypted element with an empty `aad` item (it would re-encode without it) -/
theorem reject_encrypted_empty_aad (ct nonce auth : Cbor) :
    ∃ msg, envOfCbor h (.tagged TAG_ENCRYPTED (.array [ct, nonce, auth, .bytes []])) = .err msg := by
  refine reject_encrypted h fun m hitem hne => absurd ?_ hne
  rw [encMsgCbor_of_aad hne] at hitem
  simp only [Cbor.array.injEq, List.cons.injEq, Cbor.bytes.injEq, and_true] at hitem
  exact hitem.2.2.2.symm

/-- a compressed element with a negative checksum or size (`dcbor` would wrap it around to
an unsigned value; the element would then re-encode differently) -/
theorem reject_compressed_negative (c s data dg : Cbor)
    (hneg : (∃ n, c = .nint n) ∨ (∃ n, s = .nint n)) :
    ∃ msg, envOfCbor h (.tagged TAG_COMPRESSED (.array [c, s, data, dg])) = .err msg := by
  refine reject_compressed h fun cm d hitem => ?_
  simp only [compMsgCbor, Cbor.array.injEq, List.cons.injEq, and_true] at hitem
  rcases hneg with ⟨n, rfl⟩ | ⟨n, rfl⟩
  · cases hitem.1
  · cases hitem.2.1

/-- a compressed element whose array does not have exactly four items (three items is the
form without a digest) -/
theorem reject_compressed_arity (xs : List Cbor) (hx : xs.length ≠ 4) :
    ∃ msg, envOfCbor h (.tagged TAG_COMPRESSED (.array xs)) = .err msg := by
  refine reject_compressed h fun cm d hitem => hx ?_
  cases hitem
  rfl

/-- a bare CBOR value that is none of the envelope cases -/
theorem reject_bare_cbor (c : Cbor)
    (hc : (∃ n, c = .nint n) ∨ (∃ b, c = .text b) ∨ (∃ v, c = .simple v) ∨ (∃ f, c = .float f)) :
    envOfCbor h c = .err "invalid-envelope" := by
  rcases hc with ⟨_, rfl⟩ | ⟨_, rfl⟩ | ⟨_, rfl⟩ | ⟨_, rfl⟩ <;> simp only [envOfCbor]

/-- the outermost item must be `#6.200(...)` -/
theorem reject_untagged_top (c : Cbor) (hc : ∀ item, c ≠ .tagged TAG_ENVELOPE item) :
    ∃ msg, envOfTaggedCbor h c = .err msg := by
  fun_cases envOfTaggedCbor h c
  case case1 t item ht => exact absurd (beq_iff_eq.mp ht ▸ rfl) (hc item)
  all_goals exact ⟨_, rfl⟩

/-- non-deterministic CBOR, part 1: whatever the dCBOR decoder refuses, the envelope
decoder refuses -/
theorem reject_cbor_error (b : Bytes) (x : Cbor.DecErr) (hb : Cbor.dec b = .error x) :
    decode h b = .err ("cbor:" ++ x.name) := by
  simp only [decode, hb]

/-- non-deterministic CBOR, part 2 (from the codec law).  Under the two hypotheses together
`Cbor.dec b` cannot succeed (`L` at a decoded tree negates `hb`), so this is `reject_cbor_error`
again; the content is in `reject_noncanonical_cbor_plain`, where the law is proved, not assumed. -/
theorem reject_noncanonical_cbor (b : Bytes) (L : EncDecAt b)
    (hb : ∀ c : Cbor, c.Valid → c.enc ≠ b) : ∃ msg, decode h b = .err msg := by
  cases hd : Cbor.dec b with
  | ok c => exact absurd (L c hd).1 (hb c (L c hd).2)
  | error x => exact ⟨_, reject_cbor_error h b x hd⟩

/-- non-deterministic CBOR, part 3 (model codec, no hypothesis); the second alternative is the `dcbor`
float defect -/
theorem reject_noncanonical_cbor_plain (b : Bytes) (hb : ∀ c : Cbor, c.Valid → c.enc ≠ b) :
    (∃ msg, decode h b = .err msg) ∨ (∃ c, Cbor.dec b = .ok c ∧ ¬ c.Plain) := by
  cases hd : Cbor.dec b with
  | error x => exact Or.inl ⟨_, reject_cbor_error h b x hd⟩
  | ok c =>
    refine Or.inr ⟨c, rfl, fun hp => ?_⟩
    obtain ⟨h1, h2⟩ := Cbor.encDec_of_plain hd hp
    exact hb c h2 h1

/- instances on the model codec: a non-shortest head, an indefinite-length array, a map
with keys out of order, a duplicate key, a float that should have been an integer -/
example : decode h [0xd8, 0xc8, 0x18, 0x01] = .err "cbor:non-canonical" := by rfl
example : decode h [0xd8, 0xc8, 0x9f, 0x01, 0xff] = .err "cbor:bad-header" := by rfl
example : decode h [0xd8, 0xc8, 0xa2, 0x02, 0x01, 0x01, 0x01] = .err "cbor:map-order" := by rfl
example : decode h [0xd8, 0xc8, 0xa2, 0x01, 0x01, 0x01, 0x01] = .err "cbor:map-order" := by rfl
example : decode h [0xd8, 0xc8, 0xd8, 0xc9, 0xf9, 0x3c, 0x00] = .err "cbor:non-canonical" := by rfl

/-- C06: decoding never panics.  The `assert!(!unchecked_assertions.is_empty())` of
`new_with_unchecked_assertions` is unreachable from the decoder (the array has at least two
elements), and there is no other panic site. -/
theorem decode_no_panic (b : Bytes) (s : String) : decode h b ≠ .panic s :=
  (decode_sat h b).ne_panic s

/-- C06's first sentence with no codec law (`legacyNormBytes b`: see `decode_canonical`) -/
theorem decode_total (b : Bytes) :
    (∃ msg, decode h b = .err msg) ∨
    (∃ e, decode h b = .ok e ∧ encode e = legacyNormBytes b ∧ Inv h e ∧ EncShape e) := by
  have := decode_sat h b
  cases hd : decode h b with
  | ok e => exact Or.inr ⟨e, rfl, this.of_ok hd⟩
  | err m => exact Or.inl ⟨m, rfl⟩
  | panic s => exact absurd hd (this.ne_panic s)

/-- ... and with the codec law at `b` -/
theorem decode_total_exact (b : Bytes) (L : EncDecAt b) (hl : NoLegacyLeaf b) :
    (∃ msg, decode h b = .err msg) ∨ (∃ e, decode h b = .ok e ∧ encode e = b ∧ Inv h e) := by
  rcases decode_total h b with hm | ⟨e, hd, _, hi, _⟩
  · exact Or.inl hm
  · exact Or.inr ⟨e, hd, decode_exact h b L e hd hl, hi⟩

end
end EnvVerif
