/-
  Props/C03.lean — C03 "elision hides exactly the targets and leaves no trace".

  Positions are `Path`s (`Env.at`).  For a position `p` of the original `e` with element `y`:
  * `ShallowEq x y` — same constructor, own content (leaf value / known value / encrypted or
    compressed message), digest and number of assertions;
  * `IsPlaceholder A Z act y x` — what the action leaves in the place of `y`:
      elide     ↦ `x = .elided y.digest`
      compress  ↦ `x = compressOrSelf Z y`  (`.compressed (deflate (encode y)) y.digest`, or
                   `y` itself if it is already elided / encrypted / compressed)
      encrypt   ↦ `x = .encrypted (encryptWithDigest A key (nonce y.digest) (encode y) y.digest) y.digest`
  * `AgreeOutside hit e1 e2` — the same tree outside the subtrees whose root digest is
    hit, equal digests at those roots.
  Hypotheses `Inv h e` and `ActOk act e` as in C02.
  Then `unelide` (`unelide_*`), and the array and single-target doors as the set form
  (`elideArray_eq_set`, `elideTarget_eq_set`; Model/Variants.lean).
-/
import EnvVerif.Lemmas.ElideLemmas
import EnvVerif.Model.Variants
namespace EnvVerif
open Env

section
variable (h : Hash) (A : Aead) (Z : Deflate) (T : Digest → Bool) (act : Action)

/-- For a position `p` of the original:
 1. no digest on the chain root..`p` is in `T`: the element is at `p` in the result, shallowly equal;
 2. `p` is a topmost target: the action's placeholder is at `p`, and no position lies below it;
 3. a proper ancestor of `p` is a target: `p` is not a position of the result. -/
theorem removing_spec {e r : Env} (hi : Inv h e) (ha : ActOk act e)
    (hr : elideSet h A Z T false act e = .ok r) :
    ∀ p y, e.at p = some y →
      ((∀ q, q <+: p → ∀ z, e.at q = some z → T z.digest = false) →
        ∃ x, r.at p = some x ∧ ShallowEq x y) ∧
      (T y.digest = true →
        (∀ q, q <+: p → q ≠ p → ∀ z, e.at q = some z → T z.digest = false) →
        ∃ x, r.at p = some x ∧ IsPlaceholder A Z act y x ∧ ∀ s q, r.at (p ++ s :: q) = none) ∧
      ((∃ q z, q <+: p ∧ q ≠ p ∧ e.at q = some z ∧ T z.digest = true) → r.at p = none) :=
  elideSet_spec h A Z T false act hi ha hr

example : Inv Sample.toyH Sample.e0 ∧ ActOk act Sample.e0 := ⟨Sample.inv_e0, Sample.actOk_e0 act⟩

/-- present: as itself or as a placeholder -/
theorem removing_present_iff {e r : Env} (hi : Inv h e) (ha : ActOk act e)
    (hr : elideSet h A Z T false act e = .ok r) {p : Path} {y : Env} (hy : e.at p = some y) :
    (∃ x, r.at p = some x) ↔
      ∀ q, q <+: p → q ≠ p → ∀ z, e.at q = some z → T z.digest = false := by
  rw [elideSet_present_iff h A Z T false act hi ha hr hy]
  simp only [NoHitAbove, Bool.bne_false]

example : Inv Sample.toyH Sample.e0 ∧ ActOk act Sample.e0 ∧ Sample.e0.at [.assertion 1, .obj] = some (Sample.lf 4) :=
  ⟨Sample.inv_e0, Sample.actOk_e0 act, rfl⟩

/-- with the elide action a topmost target is replaced by nothing but its digest -/
theorem removing_elide_placeholder {e r : Env} (hi : Inv h e)
    (hr : elideSet h A Z T false .elide e = .ok r) {p : Path} {y : Env} (hy : e.at p = some y)
    (hhit : T y.digest = true)
    (hn : ∀ q, q <+: p → q ≠ p → ∀ z, e.at q = some z → T z.digest = false) :
    r.at p = some (.elided y.digest) ∧ ∀ s q, r.at (p ++ s :: q) = none := by
  obtain ⟨x, hx, hp, hb⟩ := (removing_spec h A Z T .elide hi trivial hr p y hy).2.1 hhit hn
  simp only [IsPlaceholder] at hp; subst hp
  exact ⟨hx, hb⟩

/-- the sample is `7 [1: 2, 1: 4]`; its first assertion has digest 3 -/
example (r : Env) (hr : elideSet Sample.toyH A Z Sample.T3 false .elide Sample.e0 = .ok r) :
    r.at [.assertion 0] = some (.elided ⟨3⟩) ∧ ∀ s q, r.at ([.assertion 0] ++ s :: q) = none := by
  have := removing_elide_placeholder Sample.toyH A Z Sample.T3 Sample.inv_e0 hr
    (p := [.assertion 0]) (y := Sample.a1) rfl (by rw [Sample.a1_digest]; rfl) (by
      intro q hq hne z hz
      rcases List.prefix_cons_iff.mp hq with rfl | ⟨t, rfl, ht⟩
      · simp at hz; subst hz; rw [Sample.e0_digest]; rfl
      · exact absurd (by rw [List.prefix_nil.mp ht]) hne)
  rwa [Sample.a1_digest] at this

/-- the compress action's placeholder, spelled out -/
theorem compress_placeholder_obscured {y : Env} (ho : y.isObscured = true) : compressOrSelf Z y = y := by
  cases y <;> first | rfl | (simp [Env.isObscured, Env.isElided, Env.isEncrypted, Env.isCompressed] at ho)

theorem compress_placeholder_plain {y : Env} (ho : y.isObscured = false) :
    compressOrSelf Z y = .compressed (compressedOf Z (encode y)) y.digest := by
  simp only [Env.isObscured, Bool.or_eq_false_iff] at ho
  rw [compressOrSelf, Obs.compress_of_plain Z ho.2 ho.1.2 ho.1.1]

theorem revealing_spec {e r : Env} (hi : Inv h e) (ha : ActOk act e)
    (hr : elideSet h A Z T true act e = .ok r) :
    ∀ p y, e.at p = some y →
      ((∀ q, q <+: p → ∀ z, e.at q = some z → T z.digest = true) →
        ∃ x, r.at p = some x ∧ ShallowEq x y) ∧
      (T y.digest = false →
        (∀ q, q <+: p → q ≠ p → ∀ z, e.at q = some z → T z.digest = true) →
        ∃ x, r.at p = some x ∧ IsPlaceholder A Z act y x ∧ ∀ s q, r.at (p ++ s :: q) = none) ∧
      ((∃ q z, q <+: p ∧ q ≠ p ∧ e.at q = some z ∧ T z.digest = false) → r.at p = none) :=
  elideSet_spec h A Z T true act hi ha hr

example : Inv Sample.toyH Sample.e0 ∧ ActOk act Sample.e0 := ⟨Sample.inv_e0, Sample.actOk_e0 act⟩

theorem revealing_present_iff {e r : Env} (hi : Inv h e) (ha : ActOk act e)
    (hr : elideSet h A Z T true act e = .ok r) {p : Path} {y : Env} (hy : e.at p = some y) :
    (∃ x, r.at p = some x) ↔
      ∀ q, q <+: p → q ≠ p → ∀ z, e.at q = some z → T z.digest = true := by
  rw [elideSet_present_iff h A Z T true act hi ha hr hy]
  simp only [NoHitAbove, Bool.bne_true, Bool.not_eq_false']

example : Inv Sample.toyH Sample.e0 ∧ ActOk act Sample.e0 ∧ Sample.e0.at [.assertion 1, .obj] = some (Sample.lf 4) :=
  ⟨Sample.inv_e0, Sample.actOk_e0 act, rfl⟩

theorem head_2_32 : Cbor.head 2 32 = [0x58, 0x20] := by decide
theorem head_6_200 : Cbor.head 6 200 = [0xd8, 0xc8] := by decide

theorem digestCbor_enc_nonempty (d : Digest) : ((digestCbor d).enc).isEmpty = false :=
  List.isEmpty_eq_false_iff.2 (List.ne_nil_of_length_pos (Cbor.enc_length_pos _ (digestCbor_valid d)))

theorem elided_bytes (d : Digest) : cborOf (.elided d) = .bytes d.bytes := by
  simp only [cborOf]

theorem elided_bytes_length (d : Digest) : d.bytes.length = 32 := Digest.bytes_length d

theorem elided_enc (d : Digest) : (Cbor.bytes d.bytes).enc = 0x58 :: 0x20 :: d.bytes := by
  simp only [Cbor.enc, Digest.bytes_length, head_2_32, List.cons_append, List.nil_append]

/-- C03 "nothing but its 32-byte digest": tag 200, then `58 20 ‖ digest` -/
theorem elided_encode (d : Digest) :
    encode (.elided d) = 0xd8 :: 0xc8 :: 0x58 :: 0x20 :: d.bytes := by
  simp only [encode, taggedCborOf, cborOf, Cbor.enc, Digest.bytes_length, TAG_ENVELOPE, head_2_32,
    head_6_200, List.cons_append, List.nil_append]

/-- C03 "only ciphertext": the hidden content `pt` enters only through the AEAD output (ciphertext
and tag); the rest is the nonce and the digest -/
theorem encrypted_placeholder_cbor (k n pt : Bytes) (d : Digest) :
    cborOf (.encrypted (encryptWithDigest A k n pt d) d) =
      .tagged TAG_ENCRYPTED (.array [.bytes (A.enc k n pt (digestCbor d).enc).1, .bytes n,
        .bytes (A.enc k n pt (digestCbor d).enc).2, .bytes (digestCbor d).enc]) := by
  simp only [cborOf, encMsgCbor, encryptWithDigest, digestCbor_enc_nonempty d]
  rfl

/-- **non-interference**: the result of a removing elision (elide action) is a function of
the envelope outside the hidden subtrees and of the digests of their roots — what lies below a
target leaves no trace, not even in whether the call succeeds -/
theorem elide_noninterference {e1 e2 : Env} (hag : AgreeOutside T e1 e2) :
    elideSet h A Z T false .elide e1 = elideSet h A Z T false .elide e2 :=
  elideSet_elide_congr h A Z T false (by simpa only [Bool.bne_false] using hag)

example : AgreeOutside Sample.T3 Sample.e0 Sample.e0' ∧ Sample.e0 ≠ Sample.e0' :=
  ⟨Sample.agree_e0_e0', Sample.e0_ne_e0'⟩

/-- the same for a revealing elision: hidden is what is *not* in `T` -/
theorem reveal_noninterference {e1 e2 : Env} (hag : AgreeOutside (fun d => !T d) e1 e2) :
    elideSet h A Z T true .elide e1 = elideSet h A Z T true .elide e2 :=
  elideSet_elide_congr h A Z T true (by simpa only [Bool.bne_true] using hag)

theorem elide_noninterference_bytes {e1 e2 r1 r2 : Env} (hag : AgreeOutside T e1 e2)
    (h1 : elideSet h A Z T false .elide e1 = .ok r1)
    (h2 : elideSet h A Z T false .elide e2 = .ok r2) : encode r1 = encode r2 := by
  rw [elide_noninterference h A Z T hag, h2] at h1
  cases h1; rfl

theorem unelide_ok_iff (ph e : Env) : (∃ r, unelide ph e = .ok r) ↔ ph.digest = e.digest :=
  ⟨fun ⟨_, hr⟩ => (unelide_eq_ok.1 hr).1, fun hd => ⟨e, unelide_eq_ok.2 ⟨hd, rfl⟩⟩⟩

theorem unelide_ok_eq {ph e r : Env} (hr : unelide ph e = .ok r) : r = e :=
  (unelide_eq_ok.1 hr).2

theorem unelide_err_iff (ph e : Env) : unelide ph e = .err "InvalidDigest" ↔ ph.digest ≠ e.digest := by
  unfold unelide
  by_cases hd : ph.digest = e.digest
  · simp [hd]
  · simp [hd]

/-! ### every door of the elision API is the set form

`elide_*_array*` collect the digests of their targets, `elide_*_target*` are the array form with one
element, the removing / revealing forms fix the flag (Model/Variants.lean mirrors `src/base/elide.rs`).
So what is proved above holds for them with `T` = "is the digest of a listed target"; the
correspondence check runs these doors on the implementation against these definitions. -/

theorem elideArray_eq_set (ts : List Env) (rev : Bool) (e : Env) :
    elideArray h A Z ts rev act e = elideSet h A Z (memD (ts.map Env.digest)) rev act e := rfl

theorem elideTarget_eq_set (t : Env) (rev : Bool) (e : Env) :
    elideTarget h A Z t rev act e = elideSet h A Z (fun d => t.digest == d) rev act e := by
  simp only [elideTarget, elideArray, List.map_cons, List.map_nil]
  congr 1
  funext d
  simp [memD]

/-- order and repetition of the targets do not matter -/
theorem elideArray_congr (ts ts' : List Env) (rev : Bool) (e : Env)
    (hm : ∀ d, d ∈ ts.map Env.digest ↔ d ∈ ts'.map Env.digest) :
    elideArray h A Z ts rev act e = elideArray h A Z ts' rev act e := by
  simp only [elideArray]
  congr 1
  funext d
  rw [Bool.eq_iff_iff, memD_iff, memD_iff, hm]

theorem removing_spec_array {e r : Env} (ts : List Env) (hi : Inv h e) (ha : ActOk act e)
    (hr : elideRemovingArray h A Z ts act e = .ok r) :
    ∀ p y, e.at p = some y →
      ((∀ q, q <+: p → ∀ z, e.at q = some z → memD (ts.map Env.digest) z.digest = false) →
        ∃ x, r.at p = some x ∧ ShallowEq x y) ∧
      (memD (ts.map Env.digest) y.digest = true →
        (∀ q, q <+: p → q ≠ p → ∀ z, e.at q = some z → memD (ts.map Env.digest) z.digest = false) →
        ∃ x, r.at p = some x ∧ IsPlaceholder A Z act y x ∧ ∀ s q, r.at (p ++ s :: q) = none) ∧
      ((∃ q z, q <+: p ∧ q ≠ p ∧ e.at q = some z ∧ memD (ts.map Env.digest) z.digest = true) → r.at p = none) :=
  removing_spec h A Z (memD (ts.map Env.digest)) act hi ha hr

/-- a revealing call whose single target has another digest than the root (it may occur below the root
or nowhere) reveals nothing: the root is replaced as a whole.  For a target occurring nowhere a
"nothing to do" shortcut in the single-target door would get this wrong. -/
theorem revealing_absent_target {e : Env} (t : Env) (hroot : (t.digest == e.digest) = false) :
    elideRevealingTarget h A Z t act e = obscure A Z act e := by
  rw [elideRevealingTarget, elideTarget_eq_set]
  exact elideSet_hit h A Z _ true act (by rw [hroot]; rfl)

end
end EnvVerif
