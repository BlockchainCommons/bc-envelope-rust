/-
  Props/C09.lean — signatures.

  "For every envelope, signing key and signature scheme, a signature added with a private
  key verifies under the matching public key and under no other; it keeps verifying after
  any elision, encryption or compression of the envelope's parts and after other assertions
  are added (the subject digest being unchanged), and does not verify for a different
  subject.  Threshold verification over a list of keys succeeds iff at least the threshold
  (all of them when none is given) have a valid signature, and metadata returned for a
  verified signature is itself covered by a signature from the same key."

  The model is `Model/Signature.lean` (`has_some_signature_from_key_returning_metadata`); the
  scheme `V : SigScheme` and the hash `h` are parameters.  Theorems about *made* signatures
  assume the idealised signer `S` with `SigLaws V S` (`Lemmas/SigLaws.lean`, which also defines
  the statements' vocabulary); `SigL.Toy.laws` is an instance.
-/
import EnvVerif.Lemmas.SigLemmas
namespace EnvVerif
open Env SigL

variable (h : Hash) (V : SigScheme)

/-- ties the statements' `signedObjects` to the model's `objects_for_predicate('signed')` -/
theorem signedObjects_spec (e : Env) :
    objectsForPredicate e (newKnownValue h KV_SIGNED) = .ok (signedObjects h e) ∧
    ∀ o, o ∈ signedObjects h e ↔
      ∃ a ∈ e.assertions, ∃ q d, a.subject = .assertion q o d ∧
        q.digest = (newKnownValue h KV_SIGNED).digest :=
  ⟨objectsForPredicate_signed h e, fun _ => mem_signedObjects h⟩

/-- C09: verification returns a verdict on *every* envelope (no invariant needed) -/
theorem no_error_no_panic (key : Nat) (e : Env) :
    (∃ r, hasSignatureFromReturningMetadata h V key e = .ok r) ∧
    (∀ x, hasSignatureFromReturningMetadata h V key e ≠ .err x) ∧
    (∀ x, hasSignatureFromReturningMetadata h V key e ≠ .panic x) := by
  rw [hasSigMeta_eq]
  exact ⟨⟨_, rfl⟩, fun _ hx => (by cases hx), fun _ hx => (by cases hx)⟩

theorem has_signature_total (key : Nat) (e : Env) : ∃ b, hasSignatureFrom h V key e = .ok b :=
  ⟨_, hasSig_eq h V key e⟩

/-- C09: a key has a signature iff *some* 'signed' object is a valid candidate for it -/
theorem has_sig_iff (key : Nat) (e : Env) (r : Option Env)
    (hr : hasSignatureFromReturningMetadata h V key e = .ok r) :
    r.isSome = true ↔ ∃ so ∈ signedObjects h e, (sigCandidate h V key e so).isSome = true := by
  rw [hasSigMeta_eq] at hr
  cases hr
  exact validSig_iff h V key e

example : ∃ r, hasSignatureFromReturningMetadata Toy.hash Toy.scheme 1 Toy.signed1 = .ok r :=
  (no_error_no_panic _ _ 1 Toy.signed1).1

theorem has_signature_iff (key : Nat) (e : Env) :
    (hasSignatureFrom h V key e = .ok true ↔
      ∃ so ∈ signedObjects h e, (sigCandidate h V key e so).isSome = true) ∧
    (hasSignatureFrom h V key e = .ok false ↔
      ∀ so ∈ signedObjects h e, sigCandidate h V key e so = none) := by
  rw [hasSig_eq]
  simp only [Res.ok.injEq]
  refine ⟨validSig_iff h V key e, ?_⟩
  rw [validSig, ← List.findSome?_eq_none_iff]
  cases (signedObjects h e).findSome? (sigCandidate h V key e) <;> simp

/-- C09: a 'signed' object that is not a wrapper counts for `key` iff it is a readable
signature of the envelope's subject digest under `key`; returned is the bare signature as a
leaf, not the object (assertions attached to it are covered by no signature) -/
theorem sigCandidate_plain_exact (key : Nat) (e so m : Env) (hw : so.subject.isWrapped = false) :
    sigCandidate h V key e so = some m ↔
      ∃ s, extractSignature so = some s ∧ V.verify key s e.subject.digest = true ∧ m = newLeaf h s :=
  sigCandidate_plain h V key e so m hw

example : Toy.subj.subject.isWrapped = false := rfl

/-- C09: a wrapper (signature with metadata) counts for `key` iff some 'signed' object on it is
a readable signature by `key` over the wrapper's digest **and** the wrapped envelope is one
over the envelope's subject digest; returned is the wrapped (metadata) envelope -/
theorem sigCandidate_wrapper_exact (key : Nat) (e so inner m : Env) (d : Digest)
    (hs : so.subject = .wrapped inner d) :
    sigCandidate h V key e so = some m ↔
      m = inner ∧ (∃ o ∈ signedObjects h so, ReadableSigBy V key o d) ∧
        ReadableSigBy V key inner e.subject.digest :=
  sigCandidate_wrapper h V key e so inner m d hs

example : (signedWrapper Toy.hash Toy.subj (fun _ => .uint 0)).subject =
    .wrapped Toy.subj (Toy.hash.ofDigests [Toy.subj.digest]) := rfl

theorem sigCandidate_isSome_iff (key : Nat) (e so : Env) :
    (sigCandidate h V key e so).isSome = true ↔
      (so.subject.isWrapped = false ∧ ReadableSigBy V key so e.subject.digest) ∨
      (∃ inner d, so.subject = .wrapped inner d ∧
        (∃ o ∈ signedObjects h so, ReadableSigBy V key o d) ∧
        ReadableSigBy V key inner e.subject.digest) := by
  rcases isWrapped_false_or so.subject with hw | ⟨inner, d, hs⟩
  · rw [sigCandidate_plain_isSome h V key e so hw]
    refine ⟨fun hx => Or.inl ⟨hw, hx⟩, fun hx => hx.elim And.right ?_⟩
    rintro ⟨_, _, he, _⟩
    rw [he] at hw; cases hw
  · rw [Option.isSome_iff_exists]
    constructor
    · rintro ⟨m, hm⟩
      exact Or.inr ⟨inner, d, hs, ((sigCandidate_wrapper h V key e so inner m d hs).1 hm).2⟩
    · rintro (⟨hw, _⟩ | ⟨inner', d', he, hx⟩)
      · rw [hs] at hw; cases hw
      · cases hs.symm.trans he
        exact ⟨inner, (sigCandidate_wrapper h V key e so inner inner d hs).2 ⟨rfl, hx⟩⟩

/-- the bare wrapper (no assertion, so no 'signed' one) is never accepted: its metadata would
come back unverified -/
theorem unsigned_wrapper_rejects (key : Nat) (e m : Env) :
    sigCandidate h V key e (wrap h m) = none :=
  sigCandidate_wrapper_eq h V key e (wrap h m) m _ rfl

/-- C09 (metadata clause): what verification returns is covered by the key: the **bare
signature** (no assertion) of a plain 'signed' object, or the content of a wrapper that
carries the key's signature over the wrapper's digest -/
theorem metadata_covered (key : Nat) (e m : Env)
    (hr : hasSignatureFromReturningMetadata h V key e = .ok (some m)) :
    ∃ so ∈ signedObjects h e,
      (so.subject.isWrapped = false ∧ ReadableSigBy V key so e.subject.digest ∧
        m.assertions = [] ∧ ReadableSigBy V key m e.subject.digest) ∨
      (∃ d, so.subject = .wrapped m d ∧
        (∃ o ∈ signedObjects h so, ReadableSigBy V key o d) ∧
        ReadableSigBy V key m e.subject.digest) := by
  rw [hasSigMeta_eq] at hr
  obtain ⟨so, hso, hc⟩ := List.exists_of_findSome?_eq_some (Res.ok.inj hr)
  refine ⟨so, hso, ?_⟩
  rcases isWrapped_false_or so.subject with hw | ⟨inner, d, hs⟩
  · exact Or.inl ⟨hw, sigCandidate_plain_readable h V key e so m hw hc⟩
  · obtain ⟨rfl, hx⟩ := (sigCandidate_wrapper h V key e so inner m d hs).1 hc
    exact Or.inr ⟨d, hs, hx⟩

/-- assertions someone attached to an unwrapped signature object
(`Signature [ 'note': "forged" ]`) are never returned -/
theorem unsigned_decoration_never_returned (key : Nat) (e so m : Env)
    (hw : so.subject.isWrapped = false) (hc : sigCandidate h V key e so = some m) :
    m.assertions = [] :=
  (sigCandidate_plain_readable h V key e so m hw hc).2.1

example : ∃ m, hasSignatureFromReturningMetadata Toy.hash Toy.scheme 1 Toy.signed1 = .ok (some m) := by
  have hv := Toy.signed1_verifies
  rw [hasSig_eq] at hv
  exact (Option.isSome_iff_exists.1 (Res.ok.inj hv)).imp fun _ hm =>
    (hasSigMeta_eq _ _ _ _).trans (congrArg Res.ok hm)

theorem depends_only_on_subject_digest_and_signed_objects (key : Nat) (e e' : Env)
    (hd : e'.subject.digest = e.subject.digest)
    (ho : objectsForPredicate e' (newKnownValue h KV_SIGNED) =
      objectsForPredicate e (newKnownValue h KV_SIGNED)) :
    hasSignatureFromReturningMetadata h V key e' = hasSignatureFromReturningMetadata h V key e := by
  unfold hasSignatureFromReturningMetadata
  rw [ho]
  have : sigCandidate h V key e' = sigCandidate h V key e :=
    funext fun so => sigCandidate_congr h V key hd so
  rw [this]

/-- the same subject and 'signed' assertion under another (here: wrong) cached root digest -/
example : (Env.node Toy.subj [Toy.sa1] ⟨0⟩).subject.digest = Toy.signed1.subject.digest ∧
    objectsForPredicate (Env.node Toy.subj [Toy.sa1] ⟨0⟩) (newKnownValue Toy.hash KV_SIGNED) =
      objectsForPredicate Toy.signed1 (newKnownValue Toy.hash KV_SIGNED) :=
  ⟨(rfl : Toy.subj.digest = Toy.subj.digest), by
    rw [objectsForPredicate_signed, objectsForPredicate_signed,
      signedObjects_of_assertions_eq Toy.hash (e := Env.node Toy.subj [Toy.sa1] ⟨0⟩) (e' := Toy.signed1)
        (rfl : [Toy.sa1] = [Toy.sa1])]⟩

/-- a fact about lists, not about the model (`has_signature_from` is such a search:
`hasSigMeta_eq`); the model's claim is `verdict_perm_invariant` -/
theorem order_independent {α β : Type} (f : α → Option β) (sos : List α) :
    (sos.findSome? f).isSome = true ↔ ∃ so ∈ sos, (f so).isSome = true :=
  List.findSome?_isSome_iff

/-- C09: the verdict does not depend on the order of the 'signed' objects (on how the digests
sort) -/
theorem verdict_perm_invariant (key : Nat) (e e' : Env)
    (hd : e'.subject.digest = e.subject.digest)
    (hp : (signedObjects h e').Perm (signedObjects h e)) :
    hasSignatureFrom h V key e' = hasSignatureFrom h V key e :=
  hasSig_congr h V key hd fun _ => hp.mem_iff

/-- two assertion elements stored in the two possible orders -/
example : (Env.node Toy.subj [Toy.note, Toy.sa1] ⟨0⟩).subject.digest =
      (Env.node Toy.subj [Toy.sa1, Toy.note] ⟨0⟩).subject.digest ∧
    (signedObjects Toy.hash (Env.node Toy.subj [Toy.note, Toy.sa1] ⟨0⟩)).Perm
      (signedObjects Toy.hash (Env.node Toy.subj [Toy.sa1, Toy.note] ⟨0⟩)) :=
  ⟨rfl, signedObjects_perm Toy.hash (List.Perm.swap _ _ _)⟩

/-- C09: an accepted 'signed' object is accepted in every envelope with the same subject
digest that lists it under a predicate with the digest of 'signed' (the predicate may be
elided: lookups match by digest) -/
theorem valid_candidate_transfers (key : Nat) (e e' so : Env)
    (hd : e'.subject.digest = e.subject.digest)
    (hc : (sigCandidate h V key e so).isSome = true)
    (hso : so ∈ signedObjects h e') : hasSignatureFrom h V key e' = .ok true := by
  rw [hasSig_eq, (validSig_iff h V key e').2 ⟨so, hso, by rwa [sigCandidate_congr h V key hd so]⟩]

/-- the toy signed envelope with the predicate 'signed' elided and the subject elided -/
example : (Env.node (.elided Toy.subj.digest)
      [.assertion (.elided (signedKV Toy.hash).digest) (newLeaf Toy.hash Toy.sig1) Toy.sa1.digest]
      Toy.signed1.digest).subject.digest = Toy.signed1.subject.digest ∧
    (sigCandidate Toy.hash Toy.scheme 1 Toy.signed1 (newLeaf Toy.hash Toy.sig1)).isSome = true ∧
    newLeaf Toy.hash Toy.sig1 ∈ signedObjects Toy.hash (Env.node (.elided Toy.subj.digest)
      [.assertion (.elided (signedKV Toy.hash).digest) (newLeaf Toy.hash Toy.sig1) Toy.sa1.digest]
      Toy.signed1.digest) := by
  refine ⟨rfl, ?_, ?_⟩
  · rw [sigCandidate_isSome_iff]
    exact Or.inl ⟨rfl, (readable_sign_iff Toy.hash Toy.laws _ _ _ _).2 ⟨rfl, rfl⟩⟩
  · exact (mem_signedObjects Toy.hash).2
      ⟨.assertion (.elided (signedKV Toy.hash).digest) (newLeaf Toy.hash Toy.sig1) Toy.sa1.digest,
        by simp [Env.assertions], .elided (signedKV Toy.hash).digest, Toy.sa1.digest, rfl, rfl⟩

/-- C09: a valid signature stays valid in any envelope with the same subject digest that
still holds the 'signed' assertion elements, identically (whatever happened to the subject
and the other assertions: elision, encryption, compression, additions) -/
theorem survives_obscuring (key : Nat) (e e' : Env)
    (hd : e'.subject.digest = e.subject.digest)
    (hkeep : ∀ a ∈ assertionsWithPredicate e (newKnownValue h KV_SIGNED), a ∈ e'.assertions)
    (hv : hasSignatureFrom h V key e = .ok true) : hasSignatureFrom h V key e' = .ok true := by
  refine hasSig_mono h V key hd (fun so hso _ => ?_) hv
  obtain ⟨a, ha, q, d, hsub, hq⟩ := (mem_signedObjects h).1 hso
  exact (mem_signedObjects h).2 ⟨a, hkeep a (AW.mem_awp.2 ⟨ha, q, so, d, hsub, hq⟩), q, d, hsub, hq⟩

/-- the toy signed envelope with its subject elided -/
example : (Env.node (.elided Toy.subj.digest) [Toy.sa1] Toy.signed1.digest).subject.digest =
      Toy.signed1.subject.digest ∧
    (∀ a ∈ assertionsWithPredicate Toy.signed1 (newKnownValue Toy.hash KV_SIGNED),
      a ∈ (Env.node (.elided Toy.subj.digest) [Toy.sa1] Toy.signed1.digest).assertions) ∧
    hasSignatureFrom Toy.hash Toy.scheme 1 Toy.signed1 = .ok true :=
  ⟨rfl, fun _ ha => (AW.mem_awp.1 ha).1, Toy.signed1_verifies⟩

/-- C09: the same for the library's obscuring traversal (`elide_set_with_action`, every action,
both modes): if neither the root nor any element of the assertion carrying the valid signature
is hit (`T d != rev` false), the signature keeps verifying, whatever else was obscured -/
theorem survives_elideSet (A : Aead) (Z : Deflate) (T : Digest → Bool) (rev : Bool) (act : Action)
    (key : Nat) (e r a q so : Env) (d : Digest) (hi : Inv h e)
    (hroot : (T e.digest != rev) = false)
    (ha : a ∈ e.assertions) (hsub : a.subject = .assertion q so d)
    (hq : q.digest = (newKnownValue h KV_SIGNED).digest)
    (hc : (sigCandidate h V key e so).isSome = true)
    (hu : ∀ x ∈ elements a, (T x.digest != rev) = false)
    (hr : elideSet h A Z T rev act e = .ok r) : hasSignatureFrom h V key r = .ok true := by
  have hn : e.isNode = true := by cases e <;> first | rfl | cases ha
  obtain ⟨hd, hk⟩ := elideSet_node_keeps h A Z T rev act hi hn hroot hr
  exact valid_candidate_transfers h V key e r so hd hc
    ((mem_signedObjects h).2 ⟨a, hk a ha hu, q, d, hsub, hq⟩)

/-- the subject of the toy signed envelope is elided: the signature keeps verifying -/
example : ∃ r, elideSet Toy.hash InvL.idAead InvL.idDeflate (fun d => d == Toy.subj.digest) false
      .elide Toy.signed1 = .ok r ∧ hasSignatureFrom Toy.hash Toy.scheme 1 r = .ok true := by
  obtain ⟨r, hr⟩ := elideSet_isOk Toy.hash InvL.idAead InvL.idDeflate
    (fun d => d == Toy.subj.digest) false .elide Toy.signed1_inv trivial
  -- the root and the elements of the 'signed' assertion in one evaluation: the digests are shared
  have hT : ((fun d => d == Toy.subj.digest) Toy.signed1.digest != false) = false ∧
      ∀ x ∈ [Toy.sa1, signedKV Toy.hash, newLeaf Toy.hash Toy.sig1],
        ((fun d => d == Toy.subj.digest) x.digest != false) = false := by decide +kernel
  refine ⟨r, hr, survives_elideSet Toy.hash Toy.scheme _ _ (fun d => d == Toy.subj.digest) false .elide 1
    Toy.signed1 r Toy.sa1 (signedKV Toy.hash) (newLeaf Toy.hash Toy.sig1) _ Toy.signed1_inv hT.1
    (List.mem_singleton.2 rfl) rfl rfl ?_ hT.2 hr⟩
  rw [sigCandidate_isSome_iff]
  exact Or.inl ⟨rfl, (readable_sign_iff Toy.hash Toy.laws _ _ _ _).2 ⟨rfl, rfl⟩⟩

/-- C09: adding any assertion keeps a valid signature valid -/
theorem survives_added_assertions (key : Nat) (e a r : Env)
    (hr : addAssertionEnvelope h e a = .ok r)
    (hv : hasSignatureFrom h V key e = .ok true) : hasSignatureFrom h V key r = .ok true :=
  let ⟨hs, hkeep, _⟩ := signedObjects_addAny h hr
  hasSig_mono h V key (congrArg Env.digest hs) (fun so hso _ => hkeep so hso) hv

/-- C09: adding an assertion whose predicate does not have the digest of 'signed' changes no
key's verdict -/
theorem unrelated_assertion_same_verdict (key : Nat) (e a r : Env)
    (hr : addAssertionEnvelope h e a = .ok r)
    (hna : ∀ q o d, a.subject = .assertion q o d → q.digest ≠ (newKnownValue h KV_SIGNED).digest) :
    hasSignatureFrom h V key r = hasSignatureFrom h V key e := by
  obtain ⟨hs, hkeep, hnew⟩ := signedObjects_addAny h hr
  exact hasSig_congr h V key (congrArg Env.digest hs) fun so =>
    ⟨hnew (AW.matchesPred_false_of hna) so, hkeep so⟩

example : ∃ r, addAssertionEnvelope Toy.hash Toy.signed1 Toy.note = .ok r ∧
    hasSignatureFrom Toy.hash Toy.scheme 1 Toy.signed1 = .ok true ∧
    (∀ q o d, Toy.note.subject = .assertion q o d →
      q.digest ≠ (newKnownValue Toy.hash KV_SIGNED).digest) := by
  obtain ⟨r, hr⟩ := AW.add_isOk Toy.hash Toy.signed1 (a := Toy.note) rfl
  refine ⟨r, hr, Toy.signed1_verifies, ?_⟩
  intro q o d hsub
  simp only [Toy.note, newAssertion, Env.subject, Env.assertion.injEq] at hsub
  rw [← hsub.1]
  decide +kernel

/-- C09: `has_signatures_from_threshold(keys, Some(t))`; keys count with multiplicity -/
theorem threshold_iff (e : Env) (keys : List Nat) (t : Nat) (valid : Nat → Bool)
    (hv : ∀ k ∈ keys, hasSignatureFrom h V k e = .ok (valid k)) :
    hasSignaturesFromThreshold h V keys (some t) e =
      .ok (decide (1 ≤ validCount valid keys ∧ t ≤ validCount valid keys)) :=
  threshold_eq h V e keys (some t) valid hv

example : ∀ k ∈ [1, 2], hasSignatureFrom Toy.hash Toy.scheme k Toy.signed1 =
    .ok ((fun k => k == 1) k) := by
  intro k hk
  simp only [List.mem_cons, List.not_mem_nil, or_false] at hk
  rcases hk with rfl | rfl
  · exact Toy.signed1_verifies
  · decide +kernel

/-- the clause as C09 states it, for `1 ≤ t` -/
theorem threshold_pos_iff (e : Env) (keys : List Nat) (t : Nat) (ht : 1 ≤ t) (valid : Nat → Bool)
    (hv : ∀ k ∈ keys, hasSignatureFrom h V k e = .ok (valid k)) :
    hasSignaturesFromThreshold h V keys (some t) e = .ok true ↔ t ≤ validCount valid keys := by
  rw [threshold_iff h V e keys t valid hv]
  simp only [Res.ok.injEq, decide_eq_true_eq]
  omega

/-- a threshold of zero behaves like a threshold of one -/
theorem threshold_zero_iff (e : Env) (keys : List Nat) (valid : Nat → Bool)
    (hv : ∀ k ∈ keys, hasSignatureFrom h V k e = .ok (valid k)) :
    hasSignaturesFromThreshold h V keys (some 0) e = .ok true ↔ 1 ≤ validCount valid keys := by
  rw [threshold_iff h V e keys 0 valid hv]
  simp only [Res.ok.injEq, decide_eq_true_eq]
  omega

/-- C09: without a threshold all keys must be valid, and there must be one: the empty key
list gives `false` -/
theorem threshold_none_iff (e : Env) (keys : List Nat) (valid : Nat → Bool)
    (hv : ∀ k ∈ keys, hasSignatureFrom h V k e = .ok (valid k)) :
    hasSignaturesFromThreshold h V keys none e =
      .ok (decide (keys ≠ [] ∧ ∀ k ∈ keys, valid k = true)) := by
  rw [threshold_eq h V e keys none valid hv, Option.getD_none, validCount]
  congr 1
  rw [decide_eq_decide, ← List.countP_eq_length, ← List.length_pos_iff]
  have hle := List.countP_le_length (p := valid) (l := keys)
  exact ⟨fun ⟨h1, h2⟩ => ⟨Nat.lt_of_lt_of_le h1 hle, Nat.le_antisymm hle h2⟩,
    fun ⟨h1, h2⟩ => ⟨h2 ▸ h1, Nat.le_of_eq h2.symm⟩⟩

theorem threshold_empty (e : Env) (t : Option Nat) :
    hasSignaturesFromThreshold h V [] t e = .ok false := rfl

/-- the threshold check never errs or panics, and its verdict is the count of valid keys -/
theorem threshold_total (e : Env) (keys : List Nat) (t : Option Nat) :
    ∃ valid : Nat → Bool, (∀ k, hasSignatureFrom h V k e = .ok (valid k)) ∧
      hasSignaturesFromThreshold h V keys t e =
        .ok (decide (1 ≤ validCount valid keys ∧ t.getD keys.length ≤ validCount valid keys)) :=
  ⟨fun k => validSig h V k e, fun k => hasSig_eq h V k e,
    threshold_eq h V e keys t _ fun k _ => hasSig_eq h V k e⟩

variable {V} {S : Signer}

/-- C09: the signature made with key `k` over the subject digest and added with
`add_signature` verifies under `k`, provided `NotShadowed`: the envelope holds no *different*
element with the digest of the new assertion (otherwise: `added_signature_needs_notShadowed`).
No invariant on `e` is needed. -/
theorem added_signature_verifies (L : SigLaws V S) (k : Nat) (e r : Env) (outer : Env → Cbor)
    (hns : NotShadowed h e (newLeaf h (S.sign k e.subject.digest)))
    (hr : addSignature h e (S.sign k e.subject.digest) [] outer = .ok r) :
    hasSignatureFrom h V k r = .ok true := by
  rw [addSignature_nil] at hr
  obtain ⟨hs, _, _, hin⟩ := signedObjects_add h hr
  rw [hasSig_eq]
  congr 1
  refine (validSig_iff h V k r).2 ⟨_, hin hns, ?_⟩
  rw [sigCandidate_isSome_iff]
  exact Or.inl ⟨rfl, (readable_sign_iff h L _ _ _ _).2 ⟨rfl, congrArg Env.digest hs⟩⟩

example : SigLaws Toy.scheme Toy.signer ∧
    NotShadowed Toy.hash Toy.subj (newLeaf Toy.hash (Toy.signer.sign 1 Toy.subj.subject.digest)) ∧
    addSignature Toy.hash Toy.subj (Toy.signer.sign 1 Toy.subj.subject.digest) [] (fun _ => .uint 0) =
      .ok Toy.signed1 :=
  ⟨Toy.laws, fun _ hx => (by cases hx), Toy.signed1_eq _⟩

/-- a fresh assertion digest is the common sufficient condition -/
theorem added_signature_verifies_fresh (L : SigLaws V S) (k : Nat) (e r : Env) (outer : Env → Cbor)
    (hfresh : ∀ x ∈ e.assertions,
      x.digest ≠ (sigAssertion h (newLeaf h (S.sign k e.subject.digest))).digest)
    (hr : addSignature h e (S.sign k e.subject.digest) [] outer = .ok r) :
    hasSignatureFrom h V k r = .ok true :=
  added_signature_verifies h L k e r outer (fun x hx hd => absurd hd (hfresh x hx)) hr

example : ∀ x ∈ Toy.subj.assertions, x.digest ≠
    (sigAssertion Toy.hash (newLeaf Toy.hash (Toy.signer.sign 1 Toy.subj.subject.digest))).digest :=
  fun _ hx => (by cases hx)

theorem addSignature_total (e : Env) (sig : Cbor) (outer : Env → Cbor) :
    ∃ r, addSignature h e sig [] outer = .ok r :=
  AW.addAssertionUnwrap_isOk h e _ _

/-- **finding** (witness for every hash and scheme): if the envelope already holds, obscured,
an element with the digest of the new 'signed' assertion (e.g. the same deterministic signature
was added before and its assertion then elided), `add_signature` returns the envelope unchanged
(`add_assertion_envelope` ignores a digest that is present) and the key does **not** verify.
The witness satisfies the invariant when `s` does and the assertion's digest is `Valid`. -/
theorem added_signature_needs_notShadowed (k : Nat) (s : Env) (sig : Cbor) (outer : Env → Cbor) :
    addSignature h (shadowed h s sig) sig [] outer = .ok (shadowed h s sig) ∧
    hasSignatureFrom h V k (shadowed h s sig) = .ok false ∧
    (Inv h s → (sigAssertion h (newLeaf h sig)).digest.Valid → Inv h (shadowed h s sig)) := by
  refine ⟨shadowed_addSignature h s sig outer, ?_, fun hs hv => shadowed_inv h sig hs hv⟩
  rw [hasSig_eq, validSig, shadowed_signedObjects]
  rfl

/-- so `added_signature_verifies` with `Inv h e` as the only hypothesis is false -/
theorem added_signature_inv_alone_false :
    ¬ ∀ (h : Hash) (V : SigScheme) (S : Signer), SigLaws V S → ∀ (k : Nat) (e r : Env)
      (outer : Env → Cbor), Inv h e →
      addSignature h e (S.sign k e.subject.digest) [] outer = .ok r →
      hasSignatureFrom h V k r = .ok true := by
  intro hall
  have hw := added_signature_needs_notShadowed Toy.hash (V := Toy.scheme) 1 Toy.subj
    (Toy.signer.sign 1 Toy.subj.digest) (fun _ => .uint 0)
  have := hall Toy.hash Toy.scheme Toy.signer Toy.laws 1 _ _ (fun _ => .uint 0)
    (hw.2.2 (Inv.newLeaf _ _) (InvL.toyHash_valid _)) hw.1
  rw [hw.2.1] at this
  cases this

/-- C09 (with metadata): `add_signature_opt` builds the metadata envelope `m` (the signature
leaf carrying metadata assertions only, and for each of them one with its digest), wraps it,
signs the wrapper with the same key and adds the result.  Provided the signed wrapper is
`NotShadowed` in `e`, the key then verifies, and `m` is what verification returns when the
envelope had no signature from `k` before. -/
theorem added_signature_with_metadata_verifies (L : SigLaws V S) (k : Nat) (e r : Env)
    (metas : List Env) (hne : metas ≠ [])
    (hr : addSignature h e (S.sign k e.subject.digest) metas (fun w => S.sign k w.digest) = .ok r)
    (hns : ∀ m, metaEnvelope h (S.sign k e.subject.digest) metas = .ok m →
      NotShadowed h e (signedWrapper h m (fun w => S.sign k w.digest))) :
    ∃ m, metaEnvelope h (S.sign k e.subject.digest) metas = .ok m ∧
      m.subject = newLeaf h (S.sign k e.subject.digest) ∧
      (∀ a ∈ m.assertions, a ∈ metas) ∧
      (∀ a ∈ metas, ∃ a' ∈ m.assertions, a'.digest = a.digest) ∧
      sigCandidate h V k r (signedWrapper h m (fun w => S.sign k w.digest)) = some m ∧
      hasSignatureFrom h V k r = .ok true ∧
      (∃ m', hasSignatureFromReturningMetadata h V k r = .ok (some m')) ∧
      (hasSignatureFrom h V k e = .ok false →
        hasSignatureFromReturningMetadata h V k r = .ok (some m)) := by
  obtain ⟨o, hadd, ⟨hnil, _⟩ | ⟨_, m, hm, rfl⟩⟩ := addSignature_ok h hr
  · exact absurd hnil hne
  obtain ⟨hs, hold, hkeep, hin⟩ := signedObjects_add h hadd
  obtain ⟨hsubj, has⟩ := metaEnvelope_ok h hm
  have hcand : sigCandidate h V k r (signedWrapper h m (fun w => S.sign k w.digest)) = some m :=
    (sigCandidate_signedWrapper h V k r m m _).2
      ⟨rfl, (readable_sign_iff h L _ _ _ _).2 ⟨rfl, rfl⟩, (readable_meta_iff h L hm _ _).2 ⟨rfl, by rw [hs]⟩⟩
  have hmem := hin (hns m hm)
  have hvalid : validSig h V k r = true := (validSig_iff h V k r).2 ⟨_, hmem, by rw [hcand]; rfl⟩
  refine ⟨m, hm, hsubj, ?_, ?_, hcand, by rw [hasSig_eq, hvalid], ?_, ?_⟩
  · intro a ha
    rw [has] at ha
    simpa using AW.mem_foldl_normAdd_sub metas ha
  · intro a ha
    rw [has]
    exact AW.foldl_normAdd_digest metas (Or.inr ha)
  · exact (Option.isSome_iff_exists.1 hvalid).imp fun _ hm' =>
      (hasSigMeta_eq h V k r).trans (congrArg Res.ok hm')
  · intro hbefore
    rw [(has_signature_iff h V k e).2] at hbefore
    rw [hasSigMeta_eq, List.findSome?_unique ⟨_, hmem, hcand⟩]
    intro x hx q hcx
    rcases hold x hx with hxe | rfl
    · rw [sigCandidate_congr h V k (congrArg Env.digest hs) x, hbefore x hxe] at hcx
      cases hcx
    · rw [hcand] at hcx
      exact (Option.some.inj hcx).symm

/-- `add_signature_opt` with one 'note' on the toy subject: all hypotheses hold -/
example : ∃ r, addSignature Toy.hash Toy.subj (Toy.signer.sign 1 Toy.subj.subject.digest) [Toy.note]
      (fun w => Toy.signer.sign 1 w.digest) = .ok r ∧
    (∀ m, metaEnvelope Toy.hash (Toy.signer.sign 1 Toy.subj.subject.digest) [Toy.note] = .ok m →
      NotShadowed Toy.hash Toy.subj (signedWrapper Toy.hash m (fun w => Toy.signer.sign 1 w.digest))) ∧
    hasSignatureFrom Toy.hash Toy.scheme 1 Toy.subj = .ok false := by
  obtain ⟨m, hm⟩ := metaEnvelope_isOk Toy.hash (Toy.signer.sign 1 Toy.subj.subject.digest)
    (metas := [Toy.note]) (List.forall_mem_singleton.2 rfl)
  obtain ⟨r, hr⟩ := AW.addAssertionUnwrap_isOk Toy.hash Toy.subj (signedKV Toy.hash)
    (signedWrapper Toy.hash m (fun w => Toy.signer.sign 1 w.digest))
  refine ⟨r, ?_, fun _ _ _ hx => (by cases hx), rfl⟩
  rw [addSignature_cons, hm]
  exact hr

/-- C09 ("under no other"): after `add_signature_opt` for key `k` (with or without metadata,
whoever signs the wrapper, over whatever digest) another key without a signature before has
none -/
theorem other_key_rejects (L : SigLaws V S) (k k' : Nat) (hk : k' ≠ k) (e r : Env) (dg : Digest)
    (metas : List Env) (outer : Env → Cbor)
    (hbefore : hasSignatureFrom h V k' e = .ok false)
    (hr : addSignature h e (S.sign k dg) metas outer = .ok r) :
    hasSignatureFrom h V k' r = .ok false := by
  rw [(has_signature_iff h V k' _).2] at hbefore ⊢
  obtain ⟨o, hadd, ho⟩ := addSignature_ok h hr
  obtain ⟨hs, hold, _, _⟩ := signedObjects_add h hadd
  intro so hso
  rcases hold so hso with hxe | rfl
  · rw [sigCandidate_congr h V k' (congrArg Env.digest hs) so]
    exact hbefore so hxe
  · exact Option.eq_none_iff_forall_ne_some.2 fun x hc => hk (sigCandidate_made h L (dg := dg)
      (ho.imp And.right fun ⟨_, m, hm, ho⟩ => ⟨_, m, _, hm, ho⟩) hc).1

example : SigLaws Toy.scheme Toy.signer ∧ (2 : Nat) ≠ 1 ∧
    hasSignatureFrom Toy.hash Toy.scheme 2 Toy.subj = .ok false ∧
    addSignature Toy.hash Toy.subj (Toy.signer.sign 1 Toy.subj.digest) [] (fun _ => .uint 0) =
      .ok Toy.signed1 :=
  ⟨Toy.laws, by decide, rfl, Toy.signed1_eq _⟩

/-- C09: a signature-with-metadata whose wrapper was signed by a *different* key is accepted
for no key -/
theorem foreign_signed_wrapper_rejects (L : SigLaws V S) (k k2 key : Nat) (hk : k2 ≠ k) (e m : Env)
    (dg : Digest) (metas : List Env)
    (hm : metaEnvelope h (S.sign k dg) metas = .ok m) :
    sigCandidate h V key e (signedWrapper h m (fun w => S.sign k2 w.digest)) = none :=
  Option.eq_none_iff_forall_ne_some.2 fun x hc =>
    let ⟨_, h1, h2⟩ := (sigCandidate_signedWrapper h V key e m x _).1 hc
    hk (((readable_sign_iff h L _ _ _ _).1 h1).1.symm.trans ((readable_meta_iff h L hm _ _).1 h2).1)

example : SigLaws Toy.scheme Toy.signer ∧ (2 : Nat) ≠ 1 ∧
    ∃ m, metaEnvelope Toy.hash (Toy.signer.sign 1 Toy.subj.digest) [Toy.note] = .ok m :=
  ⟨Toy.laws, by decide, metaEnvelope_isOk Toy.hash _ (List.forall_mem_singleton.2 rfl)⟩

/-- C09: what the signer made over the digest `dg` (plain signature object or signed wrapper
with metadata) is a valid candidate for no key in an envelope whose subject has another digest -/
theorem other_subject_rejects (L : SigLaws V S) (k key : Nat) (dg : Digest) (e' : Env)
    (hd : e'.subject.digest ≠ dg) :
    sigCandidate h V key e' (newLeaf h (S.sign k dg)) = none ∧
    ∀ metas m outer, metaEnvelope h (S.sign k dg) metas = .ok m →
      sigCandidate h V key e' (signedWrapper h m outer) = none := by
  have hmade : ∀ o, (o = newLeaf h (S.sign k dg) ∨ ∃ metas m outer,
      metaEnvelope h (S.sign k dg) metas = .ok m ∧ o = signedWrapper h m outer) →
      sigCandidate h V key e' o = none := fun o ho =>
    Option.eq_none_iff_forall_ne_some.2 fun x hc => hd (sigCandidate_made h L ho hc).2
  exact ⟨hmade _ (Or.inl rfl), fun metas m outer hm => hmade _ (Or.inr ⟨metas, m, outer, hm, rfl⟩)⟩

/-- C09: signatures moved onto a different subject: an envelope all of whose 'signed' objects
were made over `dg` has no valid signature from any key when its subject has another digest -/
theorem moved_signatures_reject (L : SigLaws V S) (key : Nat) (dg : Digest) (e' : Env)
    (hd : e'.subject.digest ≠ dg)
    (hall : ∀ so ∈ signedObjects h e', ∃ k, so = newLeaf h (S.sign k dg) ∨
      ∃ metas m outer, metaEnvelope h (S.sign k dg) metas = .ok m ∧ so = signedWrapper h m outer) :
    hasSignatureFrom h V key e' = .ok false := by
  rw [(has_signature_iff h V key e').2]
  intro so hso
  obtain ⟨k, rfl | ⟨metas, m, outer, hm, rfl⟩⟩ := hall so hso
  · exact (other_subject_rejects h L k key dg e' hd).1
  · exact (other_subject_rejects h L k key dg e' hd).2 metas m outer hm

/-- the toy signature over the subject `"b"` transplanted onto the subject `"c"` -/
example : (Env.node (newLeaf Toy.hash (.text [0x63])) [Toy.sa1] ⟨0⟩).subject.digest ≠ Toy.subj.digest ∧
    ∀ so ∈ signedObjects Toy.hash (Env.node (newLeaf Toy.hash (.text [0x63])) [Toy.sa1] ⟨0⟩),
      ∃ k, so = newLeaf Toy.hash (Toy.signer.sign k Toy.subj.digest) ∨
        ∃ metas m outer, metaEnvelope Toy.hash (Toy.signer.sign k Toy.subj.digest) metas = .ok m ∧
          so = signedWrapper Toy.hash m outer := by
  refine ⟨by decide +kernel, ?_⟩
  intro so hso
  obtain ⟨a, ha, q, d, hsub, _⟩ := (mem_signedObjects Toy.hash).1 hso
  simp only [Env.assertions, List.mem_singleton] at ha
  subst ha
  simp only [Toy.sa1, sigAssertion, newAssertion, Env.subject, Env.assertion.injEq] at hsub
  exact ⟨1, Or.inl hsub.2.1.symm⟩

end EnvVerif
