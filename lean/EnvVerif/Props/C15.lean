/-
  Props/C15.lean — traversal and queries.

  "For every envelope, walking it visits each element exactly once, parents before children,
  with the correct depth and edge kind; the element count, the per-level and deep digest sets,
  the subject/assertion accessors and the predicate lookups (which match by digest, hence also
  through elided predicates) all agree with that structure. Lookups return exactly the
  matching assertions or objects, report none or several as the corresponding errors, and
  typed extraction returns the stored value or an error, never another value."

  The last clause (typed extraction) has no theorem: the extractors are part of the driver
  (`extractLeaf`, `extractSubject` in Model/Interp.lean), covered by the correspondence check only.

  `elements e` (Model/Inv.lean) is the list of all elements in pre-order; `Child x k c`
  (Lemmas/WalkLemmas.lean) is the child relation with the role `k` of the child.
-/
import EnvVerif.Lemmas.WalkLemmas
namespace EnvVerif
open Env AW

/-- the visited elements, in order, are `elements e` (pre-order, by the same recursion as the
walk: "exactly once" is by construction of that list, not stated by positions) -/
theorem walkStructure_elements (e : Env) (lvl : Nat) (edge : Edge) :
    (walkStructure e lvl edge).map (·.1) = elements e :=
  walkStructure_map_fst e lvl edge

theorem elementsCount_elements (e : Env) : elementsCount e = (elements e).length :=
  (elements_length e).symm

theorem walk_length (e : Env) (lvl : Nat) (edge : Edge) :
    (walkStructure e lvl edge).length = elementsCount e := by
  rw [← elements_length, ← walkStructure_map_fst e lvl edge, List.length_map]

theorem walk_head (e : Env) (lvl : Nat) (edge : Edge) :
    (walkStructure e lvl edge).head? = some (e, lvl, edge) := by
  rw [walkStructure_eq]; rfl

theorem walk_levels_node (s : Env) (as : List Env) (d : Digest) (lvl : Nat) (edge : Edge) :
    walkStructure (.node s as d) lvl edge =
      (.node s as d, lvl, edge) ::
        (walkStructure s (lvl + 1) .subject ++
          as.flatMap fun a => walkStructure a (lvl + 1) .assertion) := by
  rw [walkStructure, walkStructureList_eq]

theorem walk_levels_wrapped (e : Env) (d : Digest) (lvl : Nat) (edge : Edge) :
    walkStructure (.wrapped e d) lvl edge =
      (.wrapped e d, lvl, edge) :: walkStructure e (lvl + 1) .wrapped := rfl

theorem walk_levels_assertion (p o : Env) (d : Digest) (lvl : Nat) (edge : Edge) :
    walkStructure (.assertion p o d) lvl edge =
      (.assertion p o d, lvl, edge) ::
        (walkStructure p (lvl + 1) .predicate ++ walkStructure o (lvl + 1) .object) := rfl

theorem walk_levels_leafish (e : Env) (he : e.isInternal = false) (lvl : Nat) (edge : Edge) :
    walkStructure e lvl edge = [(e, lvl, edge)] := by
  cases e <;> first | rfl | cases he

/-- depth and edge kind: every visit but the first has a parent visit exactly one level up, and
the recorded edge is the role of the element in that parent -/
theorem walk_parent (e : Env) (lvl : Nat) (edge : Edge) :
    ∀ v ∈ (walkStructure e lvl edge).tail, ∃ pv ∈ walkStructure e lvl edge,
      Child pv.1 v.2.2 v.1 ∧ v.2.1 = pv.2.1 + 1 :=
  walkStructure_parent e lvl edge

theorem walk_descendants_deeper (e : Env) (lvl : Nat) (edge : Edge) :
    ∀ v ∈ (walkStructure e lvl edge).tail, lvl < v.2.1 ∧ v.2.2 ≠ Edge.none :=
  walkStructure_tail_level e lvl edge

/-- **parents first, descendants immediately after**: from a visit `v` the walk continues with
the complete walk of `v`'s element (at `v`'s level and edge): `v` itself (`walk_head`), then
all its descendants -/
theorem walk_parent_first (e : Env) (lvl : Nat) (edge : Edge) (pre post : List Visit) (v : Visit)
    (hsplit : walkStructure e lvl edge = pre ++ v :: post) :
    ∃ suf, v :: post = walkStructure v.1 v.2.1 v.2.2 ++ suf :=
  walkStructure_contig e lvl edge pre v post hsplit

/-- every child of a visited element is visited after it, one level deeper, with the edge
kind of its role -/
theorem walk_children_after (e : Env) (lvl : Nat) (edge : Edge) (pre post : List Visit) (v : Visit)
    (hsplit : walkStructure e lvl edge = pre ++ v :: post) (k : Edge) (c : Env)
    (hc : Child v.1 k c) : (c, v.2.1 + 1, k) ∈ post := by
  obtain ⟨suf, hs⟩ := walkStructure_contig e lvl edge pre v post hsplit
  have hm : (c, v.2.1 + 1, k) ∈ (walkStructure v.1 v.2.1 v.2.2).tail :=
    mem_walk_tail.2 ⟨_, child_iff_kids.1 hc, Or.inl rfl⟩
  rw [walkStructure_eq] at hs hm
  simp only [List.cons_append, List.cons.injEq] at hs
  rw [hs.2]
  exact List.mem_append.2 (Or.inl hm)

/-- the accessors agree with the walk's child relation (an envelope that is not a node is its
own subject and has no `subject` child) -/
theorem accessors_children (e c : Env) :
    (Child e .subject c ↔ e.isNode = true ∧ c = e.subject) ∧
    (Child e .assertion c ↔ c ∈ e.assertions) ∧
    (e.isNode = false → e.subject = e ∧ e.assertions = []) := by
  simp only [child_iff_kids]
  cases e <;> simp [Env.kids, isNode, Env.subject, Env.assertions]

theorem walk_modes (e : Env) : walk true e = walkTree e 0 ∧ walk false e = walkStructure e 0 .none :=
  ⟨rfl, rfl⟩

/-- tree mode visits, in order, the non-node members of `elements e` ("once each" in the sense
of `walkStructure_elements`) -/
theorem walkTree_elements (e : Env) (lvl : Nat) :
    (walkTree e lvl).map (·.1) = (elements e).filter (fun x => !x.isNode) :=
  walkTree_map_fst e lvl

theorem walkTree_no_nodes (e : Env) (lvl : Nat) : ∀ v ∈ walkTree e lvl, v.1.isNode = false := by
  intro v hv
  have : v.1 ∈ (walkTree e lvl).map (·.1) := List.mem_map.2 ⟨v, hv, rfl⟩
  rw [walkTree_map_fst, List.mem_filter] at this
  simpa using this.2

theorem walkTree_edges_none (e : Env) (lvl : Nat) :
    ∀ v ∈ walkTree e lvl, v.2.2 = Edge.none ∧ lvl ≤ v.2.1 :=
  walkTree_edges e lvl

theorem walkTree_length (e : Env) (lvl : Nat) :
    (walkTree e lvl).length = ((elements e).filter (fun x => !x.isNode)).length := by
  rw [← walkTree_map_fst e lvl, List.length_map]

/-- tree-mode levels: a node is transparent (its subject keeps the level, its assertions are
one deeper); wrapped and assertion elements put their children one deeper -/
theorem walkTree_levels_node (s : Env) (as : List Env) (d : Digest) (lvl : Nat) :
    walkTree (.node s as d) lvl = walkTree s lvl ++ as.flatMap fun a => walkTree a (lvl + 1) := by
  rw [walkTree, walkTreeList_eq]

theorem walkTree_levels_wrapped (e : Env) (d : Digest) (lvl : Nat) :
    walkTree (.wrapped e d) lvl = (.wrapped e d, lvl, .none) :: walkTree e (lvl + 1) := rfl

theorem walkTree_levels_assertion (p o : Env) (d : Digest) (lvl : Nat) :
    walkTree (.assertion p o d) lvl =
      (.assertion p o d, lvl, .none) :: (walkTree p (lvl + 1) ++ walkTree o (lvl + 1)) := rfl

theorem walkTree_levels_leafish (e : Env) (he : e.isInternal = false) (lvl : Nat) :
    walkTree e lvl = [(e, lvl, .none)] := by
  cases e <;> first | rfl | cases he

theorem digestsUpTo_spec (e : Env) (n : Nat) (d : Digest) :
    d ∈ digestsUpTo e n ↔
      ∃ v ∈ walkStructure e 0 .none, v.2.1 < n ∧ (d = v.1.digest ∨ d = v.1.subject.digest) := by
  rw [digestsUpTo, List.mem_flatMap]
  refine exists_congr fun v => and_congr_right fun _ => ?_
  split <;> simp [*]

theorem digestsUpTo_zero (e : Env) : digestsUpTo e 0 = [] := by
  simp [digestsUpTo]

theorem digestsUpTo_mono (e : Env) (n m : Nat) (hnm : n ≤ m) (d : Digest)
    (hd : d ∈ digestsUpTo e n) : d ∈ digestsUpTo e m := by
  rw [digestsUpTo_spec] at hd ⊢
  obtain ⟨v, hv, hlt, hd⟩ := hd
  exact ⟨v, hv, by omega, hd⟩

theorem digestsUpTo_root (e : Env) (n : Nat) (hn : 0 < n) : e.digest ∈ digestsUpTo e n := by
  rw [digestsUpTo_spec]
  exact ⟨(e, 0, .none), by rw [walkStructure_eq]; exact List.mem_cons_self, hn, Or.inl rfl⟩

theorem digestsUpTo_deep (e : Env) (d : Digest) (hd : d ∈ walkDigests e) :
    ∃ n, d ∈ digestsUpTo e n := by
  simp only [walkDigests, List.mem_map] at hd
  obtain ⟨v, hv, rfl⟩ := hd
  exact ⟨v.2.1 + 1, (digestsUpTo_spec e _ _).2 ⟨v, hv, by omega, Or.inl rfl⟩⟩

/-- Appendix D: the lookup matches on the digest of the predicate of the element's subject
(so it sees through decorated assertions, and through elided predicates) -/
theorem awp_spec (e p : Env) :
    assertionsWithPredicate e p =
      e.assertions.filter (fun a =>
        match a.subject with
        | .assertion q _ _ => q.digest == p.digest
        | _ => false) := by
  unfold assertionsWithPredicate
  congr 1
  funext a
  cases a.subject <;> rfl

theorem awp_mem (e p a : Env) :
    a ∈ assertionsWithPredicate e p ↔
      a ∈ e.assertions ∧ ∃ q o d, a.subject = .assertion q o d ∧ q.digest = p.digest :=
  mem_awp

/-- **matching through elided predicates**: replacing the predicate of any chosen
assertions (bare or decorated) by its elided form leaves the set of matching positions
unchanged -/
theorem awp_through_elided (s : Env) (as : List Env) (d : Digest) (p : Env) (S : Env → Bool) :
    assertionsWithPredicate (.node s (as.map fun a => if S a then elidePred a else a) d) p =
      (assertionsWithPredicate (.node s as d) p).map fun a => if S a then elidePred a else a := by
  simp only [awp_eq_filter, Env.assertions, List.filter_map]
  congr 1
  apply List.filter_congr
  intro a _
  simp only [Function.comp]
  split
  · exact matchesPred_elidePred a p
  · rfl

theorem awp_elidePred_keeps (h : Hash) (a : Env) :
    (elidePred a).digest = a.digest ∧ (WF h a → WF h (elidePred a)) :=
  ⟨elidePred_digest a, elidePred_wf h a⟩

theorem assertionWithPredicate_ok_iff (e p a : Env) :
    assertionWithPredicate e p = .ok a ↔ assertionsWithPredicate e p = [a] := by
  refine ⟨fun h => ?_, assertionWithPredicate_single⟩
  unfold assertionWithPredicate at h
  split at h <;> cases h
  assumption

theorem assertionWithPredicate_nonexistent_iff (e p : Env) :
    assertionWithPredicate e p = .err "NonexistentPredicate" ↔ assertionsWithPredicate e p = [] := by
  refine ⟨fun h => ?_, assertionWithPredicate_nil⟩
  match hl : assertionsWithPredicate e p with
  | [] => rfl
  | [a] => rw [assertionWithPredicate_single hl] at h; cases h
  | _ :: _ :: _ =>
    rw [assertionWithPredicate_many (hl ▸ Nat.le_add_left 2 _)] at h
    exact absurd (Res.err.inj h).symm errors_differ

theorem assertionWithPredicate_ambiguous_iff (e p : Env) :
    assertionWithPredicate e p = .err "AmbiguousPredicate" ↔
      2 ≤ (assertionsWithPredicate e p).length := by
  refine ⟨fun h => ?_, assertionWithPredicate_many⟩
  match hl : assertionsWithPredicate e p with
  | [] => rw [assertionWithPredicate_nil hl] at h; exact absurd (Res.err.inj h) errors_differ
  | [a] => rw [assertionWithPredicate_single hl] at h; cases h
  | _ :: _ :: _ => exact Nat.le_add_left 2 _

theorem assertionWithPredicate_no_panic (e p : Env) (s : String) :
    assertionWithPredicate e p ≠ .panic s :=
  assertionWithPredicate_ne_panic e p s

/-- `objectForPredicate`: the object of the subject of the unique matching element (also
for decorated assertions); none / several reported as the corresponding errors -/
theorem objectForPredicate_spec (e p : Env) :
    (assertionsWithPredicate e p = [] → objectForPredicate e p = .err "NonexistentPredicate") ∧
    (∀ a, assertionsWithPredicate e p = [a] →
      ∃ q o d, a.subject = .assertion q o d ∧ q.digest = p.digest ∧
        objectForPredicate e p = .ok o) ∧
    (2 ≤ (assertionsWithPredicate e p).length →
      objectForPredicate e p = .err "AmbiguousPredicate") := by
  refine ⟨ofp_nil, fun a h1 => ?_, ofp_many⟩
  obtain ⟨_, q, o, d, hs, hq⟩ := mem_awp.1 (h1 ▸ List.mem_cons_self : a ∈ assertionsWithPredicate e p)
  exact ⟨q, o, d, hs, hq, ofp_single h1 (by rw [hs]; rfl)⟩

theorem objectForPredicate_undecorated (e p q o : Env) (d : Digest)
    (h1 : assertionsWithPredicate e p = [.assertion q o d]) : objectForPredicate e p = .ok o :=
  ofp_single h1 rfl

theorem objectForPredicate_no_panic (e p : Env) (s : String) :
    objectForPredicate e p ≠ .panic s :=
  objectForPredicate_ne_panic e p s

theorem objectsForPredicate_spec (e p : Env) :
    objectsForPredicate e p =
      .ok ((assertionsWithPredicate e p).filterMap fun a => asObject a.subject) ∧
    ((assertionsWithPredicate e p).filterMap fun a => asObject a.subject).length =
      (assertionsWithPredicate e p).length :=
  ⟨objectsForPredicate_eq e p, List.filterMap_length_eq_length.2 fun _ ha => by
    obtain ⟨o, ho⟩ := awp_asObject ha
    rw [ho]; rfl⟩

theorem objectsForPredicate_no_panic (e p : Env) (s : String) :
    objectsForPredicate e p ≠ .panic s :=
  objectsForPredicate_ne_panic e p s

theorem optionalObjectForPredicate_spec (e p : Env) :
    (assertionsWithPredicate e p = [] → optionalObjectForPredicate e p = .ok none) ∧
    (∀ a, assertionsWithPredicate e p = [a] →
      ∃ q o d, a.subject = .assertion q o d ∧ q.digest = p.digest ∧
        optionalObjectForPredicate e p = .ok (some o)) ∧
    (2 ≤ (assertionsWithPredicate e p).length →
      optionalObjectForPredicate e p = .err "AmbiguousPredicate") := by
  refine ⟨oofp_nil, fun a h1 => ?_, oofp_many⟩
  obtain ⟨_, q, o, d, hs, hq⟩ := mem_awp.1 (h1 ▸ List.mem_cons_self : a ∈ assertionsWithPredicate e p)
  exact ⟨q, o, d, hs, hq, oofp_single h1 (by rw [hs]; rfl)⟩

theorem optionalObjectForPredicate_no_panic (e p : Env) (s : String) :
    optionalObjectForPredicate e p ≠ .panic s :=
  optionalObjectForPredicate_ne_panic e p s

section Examples
open AW.Toy

/-- `walk_parent_first`, `walk_children_after`: a split of the walk of `exNode` at the visit
of its second assertion, which has two children -/
example : ∃ pre post, walkStructure exNode 0 .none = pre ++ (exA1, 1, Edge.assertion) :: post ∧
    Child exA1 .predicate (newLeaf hLen (.uint 2)) :=
  ⟨[(exNode, 0, .none), (exSubj, 1, .subject), (exA2, 1, .assertion)],
   [(newLeaf hLen (.uint 2), 2, .predicate), (newLeaf hLen (.uint 3), 2, .object)],
   rfl,
   Child.predicate _ _ _⟩

/-- `objectForPredicate_spec`: a unique match through an elided predicate, on a decorated
assertion -/
example :
    let q := newLeaf hLen (.uint 2)
    let a := Env.node (.assertion (.elided q.digest) (newLeaf hLen (.uint 3)) ⟨9⟩) [exA2] ⟨11⟩
    assertionsWithPredicate (.node exSubj [exA2, a] ⟨12⟩) q = [a] := by
  intro q a
  rw [awp_eq_filter]
  simp only [Env.assertions, List.filter_cons, List.filter_nil]
  rfl

/-- `walk_levels_leafish`, `walkTree_levels_leafish` -/
example : exA2.isInternal = false := rfl
end Examples

end EnvVerif
