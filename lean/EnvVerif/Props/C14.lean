/-
  Props/C14.lean — equivalence and identity.

  "Two envelopes are reported equivalent iff their digests are equal, and identical (==)
  iff they are equivalent and have the same pattern of elided, encrypted and compressed
  positions. Identity is reflexive, symmetric and transitive, implies equivalence, is
  preserved by encoding and decoding, and obscuring any present element gives a result
  that is equivalent but not identical to the original."

  `tokens e` (Lemmas/WalkLemmas.lean) lists, for every walked element in walk order, the
  discriminator (`some 1` elided, `some 0` encrypted, `some 2` compressed, `none` otherwise)
  and the digest; the structural image is the unframed concatenation of the tokens.

  "Identical iff same pattern" is `identical_iff_image_hash` (equal hashes of the images);
  equal tokens (`identical_iff_tokens`) only for a hash that separates the two images, and under
  `PlainHeadsOk` and `DigestsValid` of both envelopes.
  The last clause is proved for the elide action only (`elide_root_equivalent_not_identical`
  for a non-obscured root, `elideSet_*`: `elideSet .. false .elide` hitting an element not yet
  elided): the tokens differ; "not identical" only for a hash that separates the two images and,
  below the root, `PlainHeadsOk` of both envelopes.  For compress and encrypt there is no theorem
  here: only the implementation-side oracle `obscuring-changes-identity` covers them.
-/
import EnvVerif.Lemmas.IdentityLemmas
namespace EnvVerif
open Env AW

theorem equivalent_iff_digest (a b : Env) : isEquivalentTo a b = true ↔ a.digest = b.digest := by
  simp [isEquivalentTo]

theorem tokens_spec (e : Env) : tokens e = (elements e).map fun x => (disc x, x.digest) :=
  tokens_eq_elements e

theorem structuralImage_tokens (e : Env) :
    structuralImage e = (tokens e).flatMap fun t => t.1.toList ++ t.2.bytes :=
  structuralImage_eq_tokens e

theorem identical_iff_image_hash (h : Hash) (a b : Env) :
    isIdenticalTo h a b = true ↔
      a.digest = b.digest ∧ h.H (structuralImage a) = h.H (structuralImage b) := by
  unfold isIdenticalTo isEquivalentTo structuralDigest
  by_cases hd : a.digest = b.digest <;> simp [hd]

theorem identical_refl (h : Hash) (a : Env) : isIdenticalTo h a a = true :=
  (identical_iff_image_hash h a a).2 ⟨rfl, rfl⟩

theorem identical_symm (h : Hash) (a b : Env) : isIdenticalTo h a b = isIdenticalTo h b a := by
  rw [Bool.eq_iff_iff, identical_iff_image_hash, identical_iff_image_hash]
  exact ⟨fun ⟨x, y⟩ => ⟨x.symm, y.symm⟩, fun ⟨x, y⟩ => ⟨x.symm, y.symm⟩⟩

theorem identical_trans (h : Hash) (a b c : Env) (hab : isIdenticalTo h a b = true)
    (hbc : isIdenticalTo h b c = true) : isIdenticalTo h a c = true := by
  rw [identical_iff_image_hash] at *
  exact ⟨hab.1.trans hbc.1, hab.2.trans hbc.2⟩

theorem identical_implies_equivalent (h : Hash) (a b : Env) (hab : isIdenticalTo h a b = true) :
    isEquivalentTo a b = true :=
  (equivalent_iff_digest a b).2 ((identical_iff_image_hash h a b).1 hab).1

theorem identical_of_tokens (h : Hash) (a b : Env) (hd : a.digest = b.digest)
    (ht : tokens a = tokens b) : isIdenticalTo h a b = true := by
  rw [identical_iff_image_hash, structuralImage_eq_tokens, structuralImage_eq_tokens, ht]
  exact ⟨hd, rfl⟩

/-- preserved by encoding and decoding: the round trip is the hypothesis `hrt` (C05
`decode_encode` proves it from `Inv h e`, `EncShape e` and `Encodable e`); with it `e' = e`,
and the rest is reflexivity -/
theorem identical_decode_encode (h : Hash) (e e' : Env) (hrt : decode h (encode e) = .ok e)
    (hdec : decode h (encode e) = .ok e') : isIdenticalTo h e e' = true := by
  rw [hrt] at hdec
  injection hdec with hdec
  subst hdec
  exact identical_refl h e

theorem digest_bytes_length (d : Digest) : d.bytes.length = 32 := Digest.bytes_length d

theorem digest_bytes_injective (d1 d2 : Digest) (h1 : d1.Valid) (h2 : d2.Valid)
    (hb : d1.bytes = d2.bytes) : d1 = d2 := Digest.bytes_inj h1 h2 hb

/-- If no *non-obscured* walked element of either envelope has a digest whose first byte is
0, 1 or 2, equal images have equal tokens (digests compared as 32-byte strings). -/
theorem image_injective_bytes (a b : Env) (ha : PlainHeadsOk a) (hb : PlainHeadsOk b)
    (himg : structuralImage a = structuralImage b) :
    (tokens a).map (fun t => (t.1, t.2.bytes)) = (tokens b).map (fun t => (t.1, t.2.bytes)) := by
  rw [structuralImage_eq_tokens, structuralImage_eq_tokens] at himg
  exact flat_inj _ _ (tokens_ok ha) (tokens_ok hb) himg

/-- ... and equal tokens when moreover all walked digests are 256-bit values -/
theorem image_injective (a b : Env) (ha : PlainHeadsOk a) (hb : PlainHeadsOk b)
    (hva : DigestsValid a) (hvb : DigestsValid b)
    (himg : structuralImage a = structuralImage b) : tokens a = tokens b := by
  have hv : ∀ {e : Env}, DigestsValid e → ∀ t ∈ tokens e, t.2.Valid := by
    intro e he t ht
    rw [tokens_eq_elements, List.mem_map] at ht
    obtain ⟨x, hx, rfl⟩ := ht
    exact he x hx
  exact map_tokB_inj _ _ (hv hva) (hv hvb) (image_injective_bytes a b ha hb himg)

/-- The hypothesis of DESIGN.md ("no walked digest is `b^32` for `b ∈ {0,1,2}`") is *not*
sufficient for `image_injective`: two envelopes whose walked digests are 5, 2^248, 7 and
5, 1, 7 have the same image and different tokens. -/
theorem image_not_injective_without_head_hypothesis :
    ∃ a b : Env, structuralImage a = structuralImage b ∧ tokens a ≠ tokens b ∧
      a.digest = b.digest ∧ DigestsValid a ∧ DigestsValid b ∧
      (∀ x ∈ elements a ++ elements b, ∀ c : UInt8, x.digest.bytes ≠ List.replicate 32 c) := by
  refine ⟨.assertion (.leaf (.uint 0) ⟨2 ^ 248⟩) (.elided ⟨7⟩) ⟨5⟩,
    .assertion (.elided ⟨1⟩) (.leaf (.uint 0) ⟨7⟩) ⟨5⟩, by decide +kernel, by decide +kernel, rfl,
    by unfold DigestsValid Digest.Valid; decide +kernel,
    by unfold DigestsValid Digest.Valid; decide +kernel, ?_⟩
  -- a string of 32 equal bytes has equal ends; none of the six digests has
  have key : ∀ x ∈ elements (Env.assertion (.leaf (.uint 0) ⟨2 ^ 248⟩) (.elided ⟨7⟩) ⟨5⟩) ++
      elements (Env.assertion (.elided ⟨1⟩) (.leaf (.uint 0) ⟨7⟩) ⟨5⟩),
      x.digest.bytes.head? ≠ x.digest.bytes.getLast? := by decide +kernel
  intro x hx c hc
  exact key x hx (by rw [hc]; rfl)

theorem identical_iff_tokens (h : Hash) (a b : Env) (ha : PlainHeadsOk a) (hb : PlainHeadsOk b)
    (hva : DigestsValid a) (hvb : DigestsValid b)
    (hH : h.H (structuralImage a) = h.H (structuralImage b) → structuralImage a = structuralImage b) :
    isIdenticalTo h a b = true ↔ a.digest = b.digest ∧ tokens a = tokens b := by
  constructor
  · intro hi
    obtain ⟨hd, himg⟩ := (identical_iff_image_hash h a b).1 hi
    exact ⟨hd, image_injective a b ha hb hva hvb (hH himg)⟩
  · intro ⟨hd, ht⟩
    exact identical_of_tokens h a b hd ht

theorem not_identical_of_image_ne (h : Hash) {a b : Env}
    (hH : h.H (structuralImage a) = h.H (structuralImage b) → structuralImage a = structuralImage b)
    (hne : structuralImage b ≠ structuralImage a) : isIdenticalTo h a b = false :=
  Bool.eq_false_iff.2 fun hi => hne (hH ((identical_iff_image_hash h a b).1 hi).2).symm

/-- eliding the root of a non-obscured envelope: equivalent; tokens and image differ (no
hypothesis); not identical as soon as the hash separates the two images -/
theorem elide_root_equivalent_not_identical (h : Hash) (e : Env) (he : e.isObscured = false)
    (hH : h.H (structuralImage e) = h.H (structuralImage (elide e)) →
      structuralImage e = structuralImage (elide e)) :
    isEquivalentTo e (elide e) = true ∧ tokens (elide e) ≠ tokens e ∧
      structuralImage (elide e) ≠ structuralImage e ∧ isIdenticalTo h e (elide e) = false := by
  have himg := image_elide_ne he
  refine ⟨?_, ?_, himg, ?_⟩
  · rw [equivalent_iff_digest, elide_eq]; rfl
  · intro ht
    apply himg
    rw [structuralImage_eq_tokens, structuralImage_eq_tokens, ht]
  · exact not_identical_of_image_ne h hH himg

/-- **eliding any present element** (the elide action only): a target set that hits a walked
element not already elided (e.g. `{x.digest}` for a present non-obscured `x`) gives an
envelope with the same digest, hence equivalent, whose tokens differ from the original's.
No hypothesis on the hash. -/
theorem elideSet_equivalent_tokens_ne (h : Hash) (A : Aead) (Z : Deflate) (T : Digest → Bool)
    (e r x : Env) (hi : Inv h e) (hx : x ∈ elements e) (hT : T x.digest = true)
    (hxe : x.isElided = false) (hr : elideSet h A Z T false .elide e = .ok r) :
    isEquivalentTo e r = true ∧ tokens r ≠ tokens e := by
  obtain ⟨hd, hdiff⟩ := elideSet_diff h A Z T e r hi hr
  have hdf := hdiff.2 ⟨x, hx, hT, hxe⟩
  exact ⟨(equivalent_iff_digest e r).2 hd.symm, fun hh => hdf.tokB_ne (congrArg (List.map tokB) hh.symm)⟩

/-- and not identical, when the image is uniquely decodable (`PlainHeadsOk` of both envelopes)
and the hash separates the two images.  Unlike the root case decodability is needed: a hit
deeper in the tree removes and inserts bytes in the middle of the unframed image. -/
theorem elideSet_equivalent_not_identical (h : Hash) (A : Aead) (Z : Deflate) (T : Digest → Bool)
    (e r x : Env) (hi : Inv h e) (hx : x ∈ elements e) (hT : T x.digest = true)
    (hxe : x.isElided = false) (hr : elideSet h A Z T false .elide e = .ok r)
    (hpe : PlainHeadsOk e) (hpr : PlainHeadsOk r)
    (hH : h.H (structuralImage e) = h.H (structuralImage r) →
      structuralImage e = structuralImage r) :
    isEquivalentTo e r = true ∧ structuralImage r ≠ structuralImage e ∧
      isIdenticalTo h e r = false := by
  obtain ⟨hd, hdiff⟩ := elideSet_diff h A Z T e r hi hr
  have hdf := hdiff.2 ⟨x, hx, hT, hxe⟩
  have himg : structuralImage r ≠ structuralImage e := fun hh =>
    (TokDiff.tokB_ne hdf) (image_injective_bytes e r hpe hpr hh.symm)
  exact ⟨(equivalent_iff_digest e r).2 hd.symm, himg, not_identical_of_image_ne h hH himg⟩

/-- a target set that hits no non-elided element changes nothing -/
theorem elideSet_no_hit_unchanged (h : Hash) (A : Aead) (Z : Deflate) (T : Digest → Bool)
    (e r : Env) (hi : Inv h e) (hno : ∀ x ∈ elements e, T x.digest = true → x.isElided = true)
    (hr : elideSet h A Z T false .elide e = .ok r) : r = e := by
  obtain ⟨_, hdiff⟩ := elideSet_diff h A Z T e r hi hr
  apply hdiff.1
  rintro ⟨x, hx, hT, hxe⟩
  rw [hno x hx hT] at hxe
  exact absurd hxe (by simp)

/-! the hypotheses are satisfiable -/

section Examples
open AW.Toy

/-- `image_injective`, `identical_iff_tokens`: non-obscured digests with first byte 3 or 4 -/
example : PlainHeadsOk exHi ∧ DigestsValid exHi ∧ (elements exHi).length = 4 := exHi_ok

/-- `elide_root_equivalent_not_identical`: a non-obscured envelope and a hash (the length)
that separates the two images: they differ in length, so the premise of `hH` is false -/
example : exHi.isObscured = false ∧
    (hLen.H (structuralImage exHi) = hLen.H (structuralImage (elide exHi)) →
      structuralImage exHi = structuralImage (elide exHi)) :=
  ⟨rfl, fun hh => absurd hh (by decide +kernel)⟩

/-- `elideSet_equivalent_tokens_ne`: eliding the assertion `exA1` of `exNode` (`hi`, `hx`, `hxe`;
not `elideSet_equivalent_not_identical`: `PlainHeadsOk exNode` is false under `hLen`) -/
example : Inv hLen exNode ∧ exA1 ∈ elements exNode ∧ exA1.isElided = false := by
  refine ⟨exNode_inv, ?_, rfl⟩
  show exA1 ∈ exNode :: exSubj :: exA2 :: exA1 :: _
  simp only [List.mem_cons, true_or, or_true]

/-- `elideSet_equivalent_not_identical`: all hypotheses together (but `hT`, `hxe`, which are
evident), for a hash whose digests start with byte 3: a wrapped leaf whose leaf is elided -/
example (A : Aead) (Z : Deflate) :
    Inv hHi exW ∧ newLeaf hHi (.uint 1) ∈ elements exW ∧
    (elideSet hHi A Z (fun d => d == (newLeaf hHi (.uint 1)).digest) false .elide exW = .ok exWr) ∧
    PlainHeadsOk exW ∧ PlainHeadsOk exWr ∧
    (hHi.H (structuralImage exW) = hHi.H (structuralImage exWr) →
      structuralImage exW = structuralImage exWr) :=
  ⟨exW_inv, by simp only [exW, newWrapped, elements, List.mem_cons]; exact Or.inr (self_mem_elements _),
    exW_elide A Z, exW_heads.1, exW_heads.2, exW_sep⟩
end Examples

end EnvVerif
