/-
  Props/C20.lean — global registries and formatting under concurrency.

  "Formatting envelopes, registering tags and consulting the known-value, function and
  parameter registries may happen concurrently from any number of threads: every call
  completes (no deadlock, no poisoned lock) and each formatting call returns the same text
  it returns when run alone."

  The property quantifies over schedules.  What is logic in it - the lock protocol - is
  modelled in Model/Conc.lean (resources = natural numbers, rank = the number; `Mutex` and
  `Once` as `acq`/`rel`/`once`/`done`; one `step` per thread and instruction) and proved here
  for *every* schedule, *any* number of threads and *any* sequence of API calls per thread.

  Most theorems below restate, with explicit arguments, a lemma of Lemmas/ConcLemmas.lean or
  Lemmas/ConcGuardLemmas.lean (namespace `Conc`), the one their proof names; the argument is there.

  NOT covered (exercised by the stress oracle, not proved):

    * that the instruction lists in `apiOps` are what the Rust code does: transcribed by hand from `/repo/src/base/format_context.rs`, `format.rs`,
      `tree_format.rs`, `cbor.rs`, `extension/known_values/known_values_registry.rs`,
      `extension/expressions/{functions,parameters}.rs` and, for `dcbor::GLOBAL_TAGS`,
      from `dcbor-0.17.1/src/tags.rs` (`LazyTagsStore::get`, `with_tags!`, `with_tags_mut!`,
      `tags_for_values`, `register_tags`); the `/repo` part is compared with traces on every
      run (the driver re-evaluates `rankedOf` on the extracted programs), the dcbor part is
      trusted;
    * interleavings inside dcbor's own store beyond these lock acquisitions, and anything a
      user-supplied summarizer or `with_format_context_mut!` closure does (a closure that
      formats through the global context, or that is entered while the caller keeps a
      registry guard obtained from the public `get()`, is outside the table: such programs
      are not ranked and `findDeadlock` finds the deadlock);
    * the momentary store into a lazy's own mutex inside its initialiser is not an
      instruction of the programs (header of Model/Conc.lean).  Proved about it:
      `lazy_store_never_blocks` (it uses only that `get()` locks the data mutex after
      `call_once`, `api_lazy`); the store itself, a lock-unlock pair on a free mutex that
      nobody requests meanwhile, is left out;
    * memory-model effects, the semantics of `std::sync::{Once, Mutex}` themselves (the model
      *is* the assumed semantics), the real scheduler and its fairness (the theorems say
      that progress is always possible and that no run is infinite, hence every scheduler
      that keeps running *some* enabled thread completes all calls);
    * lock poisoning and panics: the model has no panics.  In `/repo` the four lazies hand
      out the guard with `lock().unwrap_or_else(PoisonError::into_inner)`, so a panic inside
      a formatting call does not make later calls panic; dcbor's `GLOBAL_TAGS.get()` uses
      `lock().unwrap()`, and a panicking initialiser poisons its `Once`;
    * the text itself: `fmt` below is an uninterpreted function of the context value and the
      envelope (that formatting is a function of these two is Rust's `&FormatContext`, `&self`).
-/
import EnvVerif.Lemmas.ConcGuardLemmas
namespace EnvVerif
open Conc

theorem sym_append_general (held : List Nat) (p q : List Instr) :
    sym held (p ++ q) = (sym held p).bind (fun h => sym h q) :=
  sym_append_bind p q held

theorem sym_append (held held' : List Nat) (p q : List Instr)
    (hp : sym held p = some held) (hq : sym held q = some held') :
    sym held (p ++ q) = some held' :=
  sym_append_some hp hq

example : sym [FMT] (tagsBrief ++ [Instr.rel FMT]) = some [] :=
  sym_append [FMT] [] tagsBrief [Instr.rel FMT] (by decide +kernel) (by decide +kernel)

theorem ranked_concat (ops : List (List Instr)) (h : ∀ p ∈ ops, Ranked p = true) :
    Ranked ops.flatten = true :=
  ranked_iff.2 (sym_flatten fun p hp => ranked_iff.1 (h p hp))

example : Ranked [withFMT 1, lookupKV, withFMT 0, tagsBrief].flatten = true :=
  ranked_concat _ (by decide +kernel)

theorem api_ranked : allRanked = true := by decide +kernel

theorem withFMT_ranked (k : Nat) : Ranked (withFMT k) = true :=
  Conc.withFMT_ranked k

theorem api_op_ranked (p : List Instr) (h : IsApiOp p) : Ranked p = true := by
  rcases h with ⟨name, hm⟩ | ⟨k, rfl⟩
  · exact List.all_eq_true.1 api_ranked (name, p) hm
  · exact withFMT_ranked k

example : IsApiOp (withFMT 1) := Or.inl ⟨"format", List.Mem.head _⟩
-- `i := 10`: "parameter_lookup" is row 10 of `apiOps` (counted from 0)
example : IsApiOp lookupPARAM := Or.inl ⟨"parameter_lookup", List.mem_of_getElem? (i := 10) rfl⟩
example : IsApiOp (withFMT 17) := Or.inr ⟨17, rfl⟩

/-- a caller that keeps the guard of KNOWN_VALUES (public `KNOWN_VALUES.get()`) across a
formatting call is not ranked; that such a program deadlocks is what `findDeadlock` finds, it is
not proved -/
theorem guard_across_format_unranked : Ranked (getKV ++ withFMT 1 ++ [Instr.rel KV]) = false := by
  decide +kernel

/-- any number of threads, each running any concatenation of ranked operations, nothing
held, nothing initialised: `Good` -/
theorem good_init (opss : List (List (List Instr)))
    (h : ∀ ops ∈ opss, ∀ p ∈ ops, Ranked p = true) :
    Good (init (opss.map List.flatten)) := by
  apply good_init_of_ranked
  intro p hp
  obtain ⟨ops, hops, rfl⟩ := List.mem_map.1 hp
  exact ranked_concat ops (h ops hops)

/-- two threads both running `format`, a third one registering tags and looking up a known
value -/
example : Good (init ([[withFMT 1], [withFMT 1], [withFMT 0, lookupKV]].map List.flatten)) :=
  good_init _ (by decide +kernel)

theorem good_step (s s' : State) (tid : Nat) (g : Good s) (h : step s tid = some s') :
    Good s' :=
  good_step_of g h

example : ∃ s', step (init [withFMT 1, withFMT 1]) 1 = some s' ∧ Good s' :=
  ⟨_, rfl, good_step _ _ 1 (good_init [[withFMT 1], [withFMT 1]] (by decide +kernel)) rfl⟩

theorem good_run (s s' : State) (sched : List Nat) (g : Good s) (h : run s sched = some s') :
    Good s' :=
  run_preserves good_step_of g h

/-- C20, the core: while some call is unfinished some thread can step.  Being blocked includes
giving up a lock one does not own (in the model that is being stuck for ever). -/
theorem no_deadlock (s : State) (g : Good s) (h : ∃ t ∈ s.threads, t.pc ≠ []) :
    ∃ (tid : Nat) (s' : State), step s tid = some s' :=
  progress g h

/-- after thread 0 became the runner of the context initialiser and thread 1 is blocked on
it, somebody can still step -/
example : ∃ s, run (init [withFMT 1, withFMT 1]) [0, 0] = some s ∧
    step s 1 = none ∧ ∃ (tid : Nat) (s' : State), step s tid = some s' := by
  refine ⟨_, rfl, rfl, ?_⟩
  apply no_deadlock
  · exact good_run _ _ [0, 0] (good_init [[withFMT 1], [withFMT 1]] (by decide +kernel)) rfl
  · exact ⟨_, List.mem_cons_self, List.cons_ne_nil _ _⟩

theorem stuck_is_final (s : State) (g : Good s) (h : ∀ tid, step s tid = none) :
    (∀ t ∈ s.threads, t.pc = [] ∧ t.held = []) ∧ ∀ r, s.owner r = none :=
  stuck_final g h

theorem step_decreases (s s' : State) (tid : Nat) (h : step s tid = some s') :
    s'.size < s.size :=
  step_size h

theorem no_infinite_run (f : Nat → State) (sch : Nat → Nat) :
    ¬ ∀ n, step (f n) (sch n) = some (f (n + 1)) := by
  intro h
  have key : ∀ n, (f n).size + n ≤ (f 0).size := by
    intro n
    induction n with
    | zero => exact Nat.le_refl _
    | succ n ih => have := step_size (h n); omega
  have := key ((f 0).size + 1)
  omega

/-- every maximal run from a `Good` state is finite and ends with every thread finished and
nothing held; and every run can be extended to such an end ("finished" is reachable from
everywhere: no livelock region either) -/
theorem all_complete (s0 s : State) (sched : List Nat) (g : Good s0)
    (hrun : run s0 sched = some s) :
    sched.length ≤ s0.size ∧
    ((∀ tid, step s tid = none) →
      (∀ t ∈ s.threads, t.pc = [] ∧ t.held = []) ∧ ∀ r, s.owner r = none) ∧
    (∃ (more : List Nat) (s' : State), run s0 (sched ++ more) = some s' ∧
      (∀ t ∈ s'.threads, t.pc = [] ∧ t.held = []) ∧ ∀ r, s'.owner r = none) := by
  have gs : Good s := good_run s0 s sched g hrun
  refine ⟨?_, stuck_final gs, ?_⟩
  · have := run_size hrun; omega
  · obtain ⟨more, s', hr, hfin⟩ := can_finish gs
    exact ⟨more, s', run_append hrun hr, hfin⟩

example : ∃ s, run (init [withFMT 1, withFMT 1]) [0, 0, 1] = none ∧
    run (init [withFMT 1, withFMT 1]) [0, 0, 0] = some s ∧
    [0, 0, 0].length ≤ (init [withFMT 1, withFMT 1]).size :=
  ⟨_, rfl, rfl,
    (all_complete _ _ [0, 0, 0] (good_init [[withFMT 1], [withFMT 1]] (by decide +kernel)) rfl).1⟩

/-- C20, deadlock part: any number of threads, each making any sequence of API calls, any
schedule: as long as some call is unfinished some thread can step. -/
theorem api_no_deadlock (opss : List (List (List Instr)))
    (h : ∀ ops ∈ opss, ∀ p ∈ ops, IsApiOp p) (sched : List Nat) (s : State)
    (hrun : run (init (opss.map List.flatten)) sched = some s)
    (hunf : ∃ t ∈ s.threads, t.pc ≠ []) :
    ∃ (tid : Nat) (s' : State), step s tid = some s' :=
  progress
    (good_run _ s sched (good_init opss fun ops ho p hp => api_op_ranked p (h ops ho p hp)) hrun)
    hunf

/-- C20, completion part: such a run has at most `size` steps; when it cannot be extended
every call has returned and no lock is held; and it can always be extended to that. -/
theorem api_all_complete (opss : List (List (List Instr)))
    (h : ∀ ops ∈ opss, ∀ p ∈ ops, IsApiOp p) (sched : List Nat) (s : State)
    (hrun : run (init (opss.map List.flatten)) sched = some s) :
    sched.length ≤ (init (opss.map List.flatten)).size ∧
    ((∀ tid, step s tid = none) →
      (∀ t ∈ s.threads, t.pc = [] ∧ t.held = []) ∧ ∀ r, s.owner r = none) ∧
    (∃ (more : List Nat) (s' : State),
      run (init (opss.map List.flatten)) (sched ++ more) = some s' ∧
      (∀ t ∈ s'.threads, t.pc = [] ∧ t.held = []) ∧ ∀ r, s'.owner r = none) :=
  all_complete _ s sched
    (good_init opss fun ops ho p hp => api_op_ranked p (h ops ho p hp)) hrun

example : ∀ ops ∈ [[withFMT 1, lookupKV], [withFMT 0], [lookupFN, withFMT 2]],
    ∀ p ∈ ops, IsApiOp p := by
  simp only [List.forall_mem_cons, List.not_mem_nil, false_imp_iff, implies_true, and_true]
  -- rows 8 and 9 of `apiOps`
  exact ⟨⟨.inr ⟨1, rfl⟩, .inl ⟨"known_value_lookup", List.mem_of_getElem? (i := 8) rfl⟩⟩,
    .inr ⟨0, rfl⟩, .inl ⟨"function_lookup", List.mem_of_getElem? (i := 9) rfl⟩, .inr ⟨2, rfl⟩⟩

/-- every API lock program respects the lazy discipline of each of the five lazies: the data
mutex is taken only after the lazy's `call_once` (a complete table; `withFMT k` for every `k`
by `withFMT_lazy`) -/
theorem api_lazy : allLazy = true := by decide +kernel

/-- everything a thread holds - a lock, or a once it is running - is given up by an
instruction pending in its program: a `rel r` or a `done r` -/
theorem held_will_be_released (s : State) (g : Good s) (i : Nat) (t : Thread)
    (ht : s.threads[i]? = some t) (r : Nat) (hr : r ∈ t.held) :
    Instr.rel r ∈ t.pc ∨ Instr.done r ∈ t.pc :=
  held_pending (g.sym_ok i t ht) hr

/-- While some thread runs the initialiser of a lazy, nobody holds the lazy's data mutex
and no thread's next instruction requests it: the store `*self.data.lock().unwrap() = Some(..)`
inside the initialiser finds the mutex free.  (For `GLOBAL_FORMAT_CONTEXT` that store happens
with TAGS, KNOWN_VALUES, FUNCTIONS and PARAMETERS held, against the rank order; this is why it
cannot hurt.) -/
theorem lazy_store_never_blocks (opss : List (List (List Instr)))
    (h : ∀ ops ∈ opss, ∀ p ∈ ops, IsApiOp p) (sched : List Nat) (s : State)
    (hrun : run (init (opss.map List.flatten)) sched = some s)
    (o m : Nat) (hl : (o, m) ∈ lazies) (u : Nat) (hu : s.owner o = some u) :
    s.owner m = none ∧
    ∀ (i : Nat) (t : Thread) (rest : List Instr), s.threads[i]? = some t →
      t.pc ≠ Instr.acq m :: rest := by
  have g : Good s :=
    good_run _ s sched (good_init opss fun ops ho p hp => api_op_ranked p (h ops ho p hp)) hrun
  have li : LazyInv o m s := by
    refine run_preserves lazyInv_step (lazyInv_init fun p hp => ?_) hrun
    obtain ⟨ops, hops, rfl⟩ := List.mem_map.1 hp
    refine lazy_flatten fun q hq => ?_
    have hd : lazyDisciplined q = true := by
      rcases h ops hops q hq with ⟨name, hm⟩ | ⟨k, rfl⟩
      · exact List.all_eq_true.1 api_lazy (name, q) hm
      · exact withFMT_lazy k
    exact List.all_eq_true.1 hd (o, m) hl
  exact ⟨store_free g li hu, fun i t rest ht => store_unrequested li hu i t ht rest⟩

/-- thread 0 is inside the context initialiser, holding TAGS, KNOWN_VALUES, FUNCTIONS and
PARAMETERS (16 steps; TAGS and PARAMETERS are stated), thread 1 waits for it: the hypotheses of
the theorem hold, by which FMT is free -/
example : ∃ s, run (init [withFMT 1, withFMT 1]) (List.replicate 16 0) = some s ∧
    s.owner oFMT = some 0 ∧ holds s 0 PARAM = true ∧ holds s 0 TAGS = true ∧
    step s 1 = none ∧ (oFMT, FMT) ∈ lazies :=
  ⟨_, rfl, by decide +kernel⟩

/-- at most one thread holds FMT in a `Good` state (any other resource: `Conc.holds_unique`) -/
theorem fmt_mutex (s : State) (g : Good s) (i j : Nat) (hi : holds s i FMT = true)
    (hj : holds s j FMT = true) : i = j :=
  holds_unique g hi hj

example : ∃ s, run (init [withFMT 1, withFMT 1]) (List.replicate 22 0) = some s ∧
    holds s 0 FMT = true ∧ holds s 1 FMT = false :=
  ⟨_, rfl, by decide +kernel⟩

/-- The context is written only by a thread that holds FMT (this is what `exec FMT` means: an
execution containing an unguarded write is `none`).  Then, along any execution during which
thread `i` holds FMT, every write is `i`'s.  (An equivalence of the execution with a run of the
critical sections one after the other is not stated.) -/
theorem format_linearizable {C : Type} (i : Nat) (s s' : State) (c c' : C) (es : List (Ev C))
    (g : Good s) (hex : exec FMT (s, c) es = some (s', c'))
    (hhold : holdsAlong FMT i (s, c) es = true) :
    ∀ tid v, Ev.write tid v ∈ es → tid = i :=
  writes_own g hex hhold

/-- A formatting call of thread `i`, split at its acquisition of FMT: `pre` runs from the
start of the call up to and including `acq FMT`, `crit` is the rest of the call before
`rel FMT`; other threads' events are interleaved at will.  If no registration lands during
`pre` (during `crit` none can, by mutual exclusion) and the call itself only reads, then
whatever point of `crit` the call reads the context at, it formats with the context `c` the
call started with: it returns `fmt c e`, the text it returns when run alone. -/
theorem format_alone {C E T : Type} (fmt : C → E → T) (e : E) (i : Nat)
    (pre crit : List (Ev C)) (s s1 : State) (c c1 : C) (g : Good s)
    (hpre : exec FMT (s, c) pre = some (s1, c1))
    (hno : ∀ tid v, Ev.write tid v ∉ pre)
    (hhold : holdsAlong FMT i (s1, c1) crit = true)
    (hread : ∀ v, Ev.write i v ∉ crit) :
    ∀ x ∈ ctxTrace FMT (s1, c1) crit, fmt x e = fmt c e := by
  intro x hx
  have h1 : c1 = c := exec_no_write hpre hno
  have h2 : x = c1 := ctx_stable (exec_good g hpre) hhold hread x hx
  rw [h2, h1]

/-- Three threads: 1 registers tags (22 steps of first use, then the write of the new
context `42`, then `rel FMT`); after that 0 formats (`pre` = skip the once, `acq FMT`) while 2,
which also wants to format, gets as far as it can inside 0's critical section (`crit`).
The hypotheses of `format_linearizable` and `format_alone` hold (the state reached after the
registration is `Good` by `exec_good`), and the contexts 0 can observe are all `42`. -/
example :
    let sc0 : State × Nat := (init [withFMT 1, withFMT 0, withFMT 1], 0)
    let reg : List (Ev Nat) := List.replicate 22 (Ev.step 1) ++ [Ev.write 1 42, Ev.step 1]
    let pre : List (Ev Nat) := [Ev.step 0, Ev.step 0]
    let crit : List (Ev Nat) := [Ev.step 0, Ev.step 2, Ev.step 0, Ev.step 0]
    (exec FMT sc0 reg).map (·.2) = some 42 ∧
    (exec FMT sc0 (reg ++ pre)).map (fun sc => holdsAlong FMT 0 sc crit) = some true ∧
    (exec FMT sc0 (reg ++ pre)).map (fun sc => ctxTrace FMT sc crit) =
      some [42, 42, 42, 42, 42] ∧
    (exec FMT sc0 (reg ++ pre ++ crit)).map (fun sc => holds sc.1 2 FMT) = some false := by
  decide +kernel

end EnvVerif
