/-
  Props/C11.lean — SSKR (`src/extension/sskr.rs`).

  "For any envelope, content key and SSKR policy (group threshold and per-group member
  thresholds), joining a subset of the share envelopes returns the original decrypted subject
  iff the subset satisfies the policy - enough members in enough groups - and otherwise returns
  an error; it never returns a different envelope and never panics. Every share envelope has
  the digest-preserving encrypted subject of the original."

  Clause: theorem.
  - joining returns the original subject iff the policy is satisfied, else an error
    (`InvalidShares`): `c11_join_iff_quorum`, `c11_join_ok_iff`, for any non-empty selection of the
    shares of one split (a repeated share makes it fail); not "for any envelope, content key" but
    under the hypotheses stated there (`hnone`, `hfresh`: below).  The policy is the abstract
    verdict `quorum` of `SskrLaws`; "enough members in enough groups" is what it computes in the
    toy instance (`ToyRec.quorumF`);
  - never a different envelope: for one split the same theorem; for any envelopes
    `c11_join_result` says only where a result comes from;
  - never a panic: `c11_join_total`, on canonical envelopes;
  - the last sentence is no theorem of this file: `c11_split_shape` gives every share envelope the
    subject of the `Inv` envelope `sskr_split` is applied to, encrypted or not; that the subject of
    `Obs.encryptSubjectSpec A ck n e` is encrypted and declares the digest of `e.subject` is
    `Obs.encryptSubjectSpec_subject`.
  Not in the statement: several splits mixed (`c11_join_mixed`, `join_splits`); `c11_group_order`.

  Model: `Model/Recipient.lean` (`addSskrShare`, `sskrSplit`, `sskrSharesIn`, `sskrJoin`).
  The shares that `sskr_generate_using` makes are explicit arguments; the dependency enters
  as `S : Sskr` (`combine`, `identifier`) with the law `SskrLaws S shares quorum secret ident`
  (toy instance: `ToyRec.sskr_laws`).  `sskr_split` is applied to `Obs.encryptSubjectSpec A ck n e`,
  which `encrypt_subject` returns unless it refuses (`Obs.encryptSubject_eq_of_hashValid`).  The
  theorems do not ask `Obs.encryptRefusal e = none`: for an `e` that is refused (elided, or its
  subject encrypted already) they hold of an envelope the library does not make.

  `hnone`: `e` carried no `'sskrShare'` assertion before the split.  `hfresh`: no element of `e` at
  all carries the digest of a new share assertion (`add_assertion_envelope` would silently ignore
  it): the form `AW.awp_add_single` takes, where C09 and C10 ask only that no *other* element does
  (`SigL.NotShadowed`, `RecL.NoShadow`).  Beside `hnone` nothing is lost: an element equal to the
  share assertion would be an `'sskrShare'` assertion of `e`.
-/
import EnvVerif.Lemmas.SskrLemmas
namespace EnvVerif
open Env ToyDeps ToyRec RecL RecL.Ex

section
variable (h : Hash) (A : Aead)

/-- C11: on an `Inv` envelope `e`, `sskr_split` succeeds and returns, group by group, one
envelope per share: `e` (encrypted or not: the theorem does not ask) with the one `'sskrShare'`
assertion put in by `AW.normAdd` (one more, unless an element of `e` carries its digest already) -/
theorem c11_split_shape {e : Env} (hi : Inv h e) (groups : List (List Cbor)) :
    sskrSplit h e groups = .ok (groups.map fun g => g.map (shareEnv h e)) ∧
    ∀ g ∈ groups, ∀ s ∈ g,
      (shareEnv h e s).subject = e.subject ∧
      (shareEnv h e s).assertions = AW.normAdd e.assertions (shareAssertion h s) ∧
      Inv h (shareEnv h e s) :=
  ⟨sskrSplit_of_inv h hi groups, fun _ _ s _ =>
    ⟨shareEnv_subject h e s, shareEnv_assertions h e s, shareEnv_inv h hi s⟩⟩

/-- the general statement, of which `c11_join_iff_quorum` (`ι = Unit`) and `c11_join_mixed`
(`ι = Bool`) are instances: share envelopes of any family of splits with pairwise different
identifiers, some of them possibly splits of another secret -/
theorem join_splits (LA : AeadLaws A) {S : Sskr} {ι : Type} {shares : ι → List Cbor}
    {q : ι → List Cbor → Bool} {sec : ι → Bytes} {id : ι → Nat} (hinj : ∀ i j, id i = id j → i = j)
    (L : ∀ i, SskrLaws S (shares i) (q i) (sec i) (id i)) {e : Env} (hi : Inv h e)
    (hH : ∀ b, (h.H b).Valid) (hrt : RoundTrips h e.subject) {ck : Bytes} (hck : ck.length = 32)
    (n : Bytes) (hnone : assertionsWithPredicate e (shareKV h) = [])
    (s0 : Cbor) (subs : List Cbor) (hs : ∀ s ∈ s0 :: subs, ∃ i, s ∈ shares i)
    (hfresh : ∀ s ∈ s0 :: subs, ∀ y ∈ e.assertions, y.digest ≠ (shareAssertion h s).digest) :
    ((∃ i, sec i = ck ∧ ((s0 :: subs).filter (fun s => S.identifier s == id i)).Nodup ∧
        q i ((s0 :: subs).filter (fun s => S.identifier s == id i)) = true) →
      sskrJoin h A S ((s0 :: subs).map (shareEnv h (Obs.encryptSubjectSpec A ck n e))) =
        .ok e.subject) ∧
    (¬ (∃ i, sec i = ck ∧ ((s0 :: subs).filter (fun s => S.identifier s == id i)).Nodup ∧
        q i ((s0 :: subs).filter (fun s => S.identifier s == id i)) = true) →
      sskrJoin h A S ((s0 :: subs).map (shareEnv h (Obs.encryptSubjectSpec A ck n e))) =
        .err "InvalidShares") := by
  obtain ⟨j1, j2⟩ := join_shareEnvs h A LA S hi hH hrt hck n hnone s0 subs
    (fun s hm => (hs s hm).elim fun i hi => (L i).shape s hi) hfresh
  -- the shares carrying the identifier of split `i` are shares of split `i`
  have hsub : ∀ i, ∀ s ∈ (s0 :: subs).filter (fun s => S.identifier s == id i), s ∈ shares i := by
    intro i s hm
    obtain ⟨hm, hid⟩ := List.mem_filter.1 hm
    obtain ⟨j, hj⟩ := hs s hm
    cases hinj i j ((beq_iff_eq.1 hid).symm.trans ((L j).ident_eq s hj))
    exact hj
  constructor
  · rintro ⟨i, rfl, hq⟩
    refine j1 ⟨id i, fun hnil => ?_, (((L i).combine_iff _ (hsub i)).1).2 hq⟩
    rw [hnil, (L i).quorum_nil] at hq
    cases hq.2
  · intro hbad
    refine j2 fun v hne hc => ?_
    obtain ⟨s, hm⟩ := List.exists_mem_of_ne_nil _ hne
    obtain ⟨hm, hid⟩ := List.mem_filter.1 hm
    obtain ⟨i, hi'⟩ := hs s hm
    cases (beq_iff_eq.1 hid).symm.trans ((L i).ident_eq s hi')
    obtain ⟨c1, c2⟩ := (L i).combine_iff _ (hsub i)
    by_cases hq : ((s0 :: subs).filter (fun s => S.identifier s == id i)).Nodup ∧
        q i ((s0 :: subs).filter (fun s => S.identifier s == id i)) = true
    · exact hbad ⟨i, Option.some.inj ((c1.2 hq).symm.trans hc), hq⟩
    · rw [c2 hq] at hc
      cases hc

/-- C11: the share envelopes of one split, any non-empty selection with any repetition: `sskr_join`
returns the subject of the original envelope exactly when the selection is duplicate-free
and satisfies the policy, and `InvalidShares` otherwise -/
theorem c11_join_iff_quorum (LA : AeadLaws A) {S : Sskr} {shares : List Cbor}
    {quorum : List Cbor → Bool} {ck : Bytes} {ident : Nat}
    (L : SskrLaws S shares quorum ck ident) {e : Env} (hi : Inv h e)
    (hH : ∀ b, (h.H b).Valid) (hrt : RoundTrips h e.subject) (hck : ck.length = 32) (n : Bytes)
    (hnone : assertionsWithPredicate e (shareKV h) = [])
    (s0 : Cbor) (subs : List Cbor) (hs : ∀ s ∈ s0 :: subs, s ∈ shares)
    (hfresh : ∀ s ∈ s0 :: subs, ∀ y ∈ e.assertions, y.digest ≠ (shareAssertion h s).digest) :
    (((s0 :: subs).Nodup ∧ quorum (s0 :: subs) = true) →
      sskrJoin h A S ((s0 :: subs).map (shareEnv h (Obs.encryptSubjectSpec A ck n e))) =
        .ok e.subject) ∧
    (¬ ((s0 :: subs).Nodup ∧ quorum (s0 :: subs) = true) →
      sskrJoin h A S ((s0 :: subs).map (shareEnv h (Obs.encryptSubjectSpec A ck n e))) =
        .err "InvalidShares") := by
  have key := join_splits h A LA (ι := Unit) (fun _ _ _ => rfl) (fun _ => L) hi hH hrt hck n hnone
    s0 subs (fun s hm => ⟨(), hs s hm⟩) hfresh
  rw [List.filter_eq_self.2 fun s hm => by simp [L.ident_eq s (hs s hm)]] at key
  exact ⟨fun hq => key.1 ⟨(), rfl, hq⟩, fun hq => key.2 fun ⟨_, _, hq'⟩ => hq hq'⟩

/-- C11, the statement as an equivalence -/
theorem c11_join_ok_iff (LA : AeadLaws A) {S : Sskr} {shares : List Cbor}
    {quorum : List Cbor → Bool} {ck : Bytes} {ident : Nat}
    (L : SskrLaws S shares quorum ck ident) {e : Env} (hi : Inv h e)
    (hH : ∀ b, (h.H b).Valid) (hrt : RoundTrips h e.subject) (hck : ck.length = 32) (n : Bytes)
    (hnone : assertionsWithPredicate e (shareKV h) = [])
    (s0 : Cbor) (subs : List Cbor) (hs : ∀ s ∈ s0 :: subs, s ∈ shares)
    (hfresh : ∀ s ∈ s0 :: subs, ∀ y ∈ e.assertions, y.digest ≠ (shareAssertion h s).digest) :
    (∃ x, sskrJoin h A S ((s0 :: subs).map (shareEnv h (Obs.encryptSubjectSpec A ck n e))) = .ok x) ↔
      ((s0 :: subs).Nodup ∧ quorum (s0 :: subs) = true) := by
  obtain ⟨j1, j2⟩ := c11_join_iff_quorum h A LA L hi hH hrt hck n hnone s0 subs hs hfresh
  constructor
  · rintro ⟨x, hx⟩
    apply Classical.byContradiction
    intro hq
    rw [j2 hq] at hx
    cases hx
  · intro hq
    exact ⟨_, j1 hq⟩

/-- C11: share envelopes of two splits of the same encrypted envelope mixed together
(different identifiers; the second split may be of another secret): `sskr_join` sorts them by
identifier and recovers the subject exactly when the first split's shares among them are
duplicate-free and reach its quorum, or the second split is of the same content key and its
shares do; otherwise `InvalidShares` -/
theorem c11_join_mixed (LA : AeadLaws A) {S : Sskr} {shares1 shares2 : List Cbor}
    {q1 q2 : List Cbor → Bool} {ck secret2 : Bytes} {i1 i2 : Nat} (hne : i1 ≠ i2)
    (L1 : SskrLaws S shares1 q1 ck i1) (L2 : SskrLaws S shares2 q2 secret2 i2)
    {e : Env} (hi : Inv h e)
    (hH : ∀ b, (h.H b).Valid) (hrt : RoundTrips h e.subject) (hck : ck.length = 32) (n : Bytes)
    (hnone : assertionsWithPredicate e (shareKV h) = [])
    (s0 : Cbor) (subs : List Cbor) (hs : ∀ s ∈ s0 :: subs, s ∈ shares1 ∨ s ∈ shares2)
    (hfresh : ∀ s ∈ s0 :: subs, ∀ y ∈ e.assertions, y.digest ≠ (shareAssertion h s).digest) :
    let sub1 := (s0 :: subs).filter (fun s => S.identifier s == i1)
    let sub2 := (s0 :: subs).filter (fun s => S.identifier s == i2)
    let good := (sub1.Nodup ∧ q1 sub1 = true) ∨ (secret2 = ck ∧ sub2.Nodup ∧ q2 sub2 = true)
    (good → sskrJoin h A S ((s0 :: subs).map (shareEnv h (Obs.encryptSubjectSpec A ck n e))) =
        .ok e.subject) ∧
    (¬ good → sskrJoin h A S ((s0 :: subs).map (shareEnv h (Obs.encryptSubjectSpec A ck n e))) =
        .err "InvalidShares") := by
  intro sub1 sub2 good
  -- the two splits as a family over `Bool`: `false` the first, `true` the second
  have key := join_splits h A LA (ι := Bool) (shares := fun b => cond b shares2 shares1)
    (q := fun b => cond b q2 q1) (sec := fun b => cond b secret2 ck) (id := fun b => cond b i2 i1)
    (fun a b hab => by cases a <;> cases b <;> first | rfl | exact absurd hab hne | exact absurd hab.symm hne)
    (fun b => by cases b <;> assumption) hi hH hrt hck n hnone s0 subs
    (fun s hm => (hs s hm).elim (fun h1 => ⟨false, h1⟩) (fun h2 => ⟨true, h2⟩)) hfresh
  refine ⟨fun hg => key.1 ?_, fun hg => key.2 fun ⟨b, hsec, hq⟩ => hg ?_⟩
  · rcases hg with hq | ⟨hsec, hq⟩
    · exact ⟨false, rfl, hq⟩
    · exact ⟨true, hsec, hq⟩
  · cases b
    · exact Or.inl hq
    · exact Or.inr ⟨hsec, hq⟩

/-- C11: `sskr_join` never panics on canonical envelopes (not on decorated `'sskrShare'`
assertions, obscured share objects, shares too short to carry an identifier, or an empty
list).  `Canon` is used of the first envelope only, the one that is decrypted. -/
theorem c11_join_total (S : Sskr) (envs : List Env) (hc : ∀ e ∈ envs, Canon e) (p : String) :
    sskrJoin h A S envs ≠ .panic p := by
  cases envs with
  | nil => nofun
  | cons first rest =>
    rw [sskrJoin_cons, ne_eq, Res.bind_eq_panic]
    rintro (hall | ⟨l, _, hf⟩)
    · exact allShares_ne_panic h _ p hall
    · obtain hf | ⟨_, hf⟩ := Option.getD_eq_iff.1 hf
      · obtain ⟨g, _, hg⟩ := List.exists_of_findSome?_eq_some hf
        obtain ⟨key, _, _, ⟨y, _, hr⟩ | ⟨q, hd, _⟩⟩ := (groupStep_eq_some h A).1 hg
        · cases hr
        · exact Obs.decryptSubject_ne_panic h A (hc first List.mem_cons_self) q hd
      · cases hf

/-- C11: whatever `sskr_join` returns is the subject of a successful `decrypt_subject` of the
*first* envelope under a 32-byte secret that one identifier-group of the presented shares
combines to -/
theorem c11_join_result (S : Sskr) (envs : List Env) {x : Env}
    (hx : sskrJoin h A S envs = .ok x) :
    ∃ first rest shares i key y, envs = first :: rest ∧ allShares h envs = .ok shares ∧
      S.combine (shares.filter (fun s => S.identifier s == i)) = some key ∧ key.length = 32 ∧
      decryptSubject h A key first = .ok y ∧ x = y.subject := by
  cases envs with
  | nil => cases hx
  | cons first rest =>
    rw [sskrJoin_cons] at hx
    obtain ⟨l, hall, hx⟩ := Res.bind_eq_ok.1 hx
    obtain hf | ⟨_, hf⟩ := Option.getD_eq_iff.1 hx
    · obtain ⟨g, hg, hgs⟩ := List.exists_of_findSome?_eq_some hf
      obtain ⟨i, rfl, _⟩ := (mem_groupShares S l g).1 hg
      obtain ⟨key, hcomb, hlen, ⟨y, hd, hxy⟩ | ⟨_, _, hxy⟩⟩ := (groupStep_eq_some h A).1 hgs
      · exact ⟨first, rest, l, i, key, y, rfl, hall, hcomb, hlen, hd, Res.ok.inj hxy⟩
      · cases hxy
    · cases hf

/-- C11: the order in which the identifier groups are tried (the iteration order of a
`HashMap` in the Rust) does not influence the outcome -/
theorem c11_group_order (LA : AeadLaws A) (S : Sskr) (first : Env) (rest : List Env)
    (hc : Canon first) {G G' : List (List Cbor)} (hp : G.Perm G') :
    joinGroups h A S (first :: rest) G = joinGroups h A S (first :: rest) G' := by
  rw [joinGroups_eq, joinGroups_eq, List.findSome?_perm_unique hp fun _ _ _ _ _ _ =>
    groupStep_unique h A LA fun _ => Obs.decryptSubject_ne_panic h A hc]

end

theorem Ex.shs_fresh : ∀ s ∈ Ex.shs, ∀ y ∈ Ex.nd.assertions,
    y.digest ≠ (shareAssertion Ex.H s).digest := by
  decide +kernel

/-- member `mi` of the single group -/
def Ex.sh (mi : Nat) : Cbor := share ⟨5, 1, 0, 2, mi, Ex.ck⟩

theorem Ex.shs_eq : Ex.shs = [Ex.sh 0, Ex.sh 1, Ex.sh 2] := by rfl

theorem Ex.sh_inj {a b : Nat} (hne : a ≠ b) : Ex.sh a ≠ Ex.sh b := by
  intro he
  have := congrArg fields he
  simp only [Ex.sh, fields_share, Option.some.injEq, ShareFields.mk.injEq] at this
  exact hne this.2.2.2.2.1

/-- C11 `c11_join_iff_quorum` at the sample: any non-empty selection of the three shares -/
theorem Ex.join_sample (s0 : Cbor) (subs : List Cbor) (hs : ∀ s ∈ s0 :: subs, s ∈ Ex.shs) :
    (((s0 :: subs).Nodup ∧ quorum (s0 :: subs) = true) →
      sskrJoin H toyAead sskr ((s0 :: subs).map (shareEnv H (Obs.encryptSubjectSpec toyAead ck [] nd))) =
        .ok nd.subject) ∧
    (¬ ((s0 :: subs).Nodup ∧ quorum (s0 :: subs) = true) →
      sskrJoin H toyAead sskr ((s0 :: subs).map (shareEnv H (Obs.encryptSubjectSpec toyAead ck [] nd))) =
        .err "InvalidShares") :=
  c11_join_iff_quorum H toyAead toyAead_laws (sskr_laws 5 spec ck) nd_inv hash_valid
    (by rfl) ck_len [] nd_noShares s0 subs hs (fun s h => Ex.shs_fresh s (hs s h))

/- members 0 and 1 recover the subject; member 0 twice does not; member 2 alone does not -/
example :
    sskrJoin H toyAead sskr ([Ex.sh 0, Ex.sh 1].map (shareEnv H (Obs.encryptSubjectSpec toyAead ck [] nd))) =
      .ok nd.subject :=
  (Ex.join_sample (Ex.sh 0) [Ex.sh 1] (by simp [Ex.shs_eq])).1 ⟨by simp [Ex.sh_inj], by decide +kernel⟩

example :
    sskrJoin H toyAead sskr ([Ex.sh 0, Ex.sh 0].map (shareEnv H (Obs.encryptSubjectSpec toyAead ck [] nd))) =
      .err "InvalidShares" :=
  (Ex.join_sample (Ex.sh 0) [Ex.sh 0] (by simp [Ex.shs_eq])).2 (by intro hh; simp at hh)

example :
    sskrJoin H toyAead sskr ([Ex.sh 2].map (shareEnv H (Obs.encryptSubjectSpec toyAead ck [] nd))) =
      .err "InvalidShares" :=
  (Ex.join_sample (Ex.sh 2) [] (by simp [Ex.shs_eq])).2
    (by intro hh; have := hh.2; revert this; decide +kernel)

end EnvVerif
