/-
  Props/C10.lean — public-key recipients (`src/extension/recipient.rs`).

  "For any envelope and any non-empty list of recipient public keys, each listed recipient's
  private key decrypts the subject to exactly the original subject (and the wrap-and-encrypt
  form, and seal/unseal, return an envelope identical to the original), while any other
  private key gets an error. The encrypted envelope keeps the original subject's digest, adding
  a recipient leaves earlier recipients able to decrypt, and unseal fails for a wrong sender key
  or wrong recipient key."

  Clause: theorem (each under the hypotheses named below).
  - each listed recipient decrypts to the original subject: `c10_each_recipient_opens` (any list,
    empty or with repetitions; under `NoShadow` and a proviso on sealed messages `e` carried before);
  - any other private key gets an error: `c10_non_recipient_fails`.  One key id stands for the public
    and the private key; that another id opens nothing is `KemLaws.unseal_only`;
  - wrap-and-encrypt: `c10_encryptToRecipient_roundtrip`;
  - seal / unseal and its two failures: the conjuncts of `c10_unseal_seal`;
  - the subject's digest is kept: `c10_digest_preserved`;
  - adding a recipient: `c10_add_recipient_monotone`, `c10_add_recipient_other_keys`.
  Not in the statement: `c10_no_panic`, `c10_seal_total`, `c10_scheme_mismatch_skipped`.

  Model: `Model/Recipient.lean`; the content key, the nonce and the sealed messages that the
  library draws from its RNG are explicit arguments.  Vocabulary (`sealsFor`, `recAs`, `opens`,
  `NoShadow`): `Lemmas/RecipientLemmas.lean`.  Hypotheses (never axioms): `Inv h e`, `hH` (the hash
  returns 32 bytes), `RoundTrips h x` for the one envelope that is encrypted (conclusion of C05),
  `AeadLaws A`, `KemLaws K S` (toy instances: `ToyDeps.toyAead_laws`, `ToyRec.kem_laws`).
-/
import EnvVerif.Lemmas.RecipientLemmas
import EnvVerif.Model.Seal
import EnvVerif.Props.C09
import EnvVerif.Props.C05
namespace EnvVerif
open Env ToyDeps ToyRec RecL RecL.Ex SigL

section
variable (h : Hash) (A : Aead)

/-- C10: every listed recipient opens the envelope built by `encrypt_subject_to_recipients`
and gets *exactly* the original envelope with the `'hasRecipient'` assertions added.
`olds` are the sealed messages already present in `e` (none, normally); a recipient may
open such an earlier one only if it holds the same content key.  `krs` may repeat a pair: the
two assertions are then equal, which `NoShadow` allows (`y = a`). -/
theorem c10_each_recipient_opens {K : Kem} {S : Sealer} (LA : AeadLaws A) (LK : KemLaws K S)
    (ck n : Bytes) (krs : List (Nat × Nat)) (e r : Env) (olds : List Cbor)
    (hi : Inv h e) (hH : ∀ b, (h.H b).Valid) (hrt : RoundTrips h e.subject) (hck : ck.length = 32)
    (hold : recipients h e = .ok olds)
    (hns : NoShadow e (recAs h (sealsFor S ck krs)))
    (hr : encryptSubjectToRecipients h A ck n (sealsFor S ck krs) e = .ok r) :
    ∀ k ∈ krs.map Prod.fst,
      (∀ s ∈ olds, ∀ q, opens K k s = some q → q = (symmetricKeyCbor ck).enc) →
      ∃ x, decryptSubjectToRecipient h A K k r = .ok x ∧
        x.subject = e.subject ∧ x.assertions = r.assertions ∧ x.digest = r.digest ∧
        (sealsFor S ck krs).foldl (fun (acc : Res Env) s => acc.bind fun y => addRecipient h y s)
          (Res.ok e) = .ok x := by
  intro k hk holds
  obtain ⟨rfl, _⟩ := encryptSubjectToRecipients_ok h A hi hH hr
  refine ⟨builtPlain h (sealsFor S ck krs) e, ?_, builtPlain_subject h _ hi,
    (built_assertions_plain h A ck n _ hi).symm, (built_digest h A ck n _ e).symm,
    addRecipients_of_inv h hi _⟩
  obtain ⟨R, hR, hRsub, hRmem⟩ := recipients_of_assertions h hold
    (built_assertions_sub h A ck n (sealsFor S ck krs) e) (sealsFor_tagged LK ck krs)
  obtain ⟨kr, hkr, rfl⟩ := List.mem_map.1 hk
  -- the sealed message made for `kr` is stored (`hns`), so `recipients()` lists it
  have hs : S.sealTo kr.1 (symmetricKeyCbor ck).enc kr.2 ∈ sealsFor S ck krs :=
    List.mem_map.2 ⟨kr, hkr, rfl⟩
  have hmemA : hasRecipientAssertion h (S.sealTo kr.1 (symmetricKeyCbor ck).enc kr.2) ∈
      (built h A ck n (sealsFor S ck krs) e).assertions := by
    rw [built_assertions]
    exact AW.mem_foldl_normAdd_new (List.mem_map.2 ⟨_, hs, rfl⟩) (hns _ (List.mem_map.2 ⟨_, hs, rfl⟩))
  have hinR := hRmem _ hmemA _ (matches_recA h _) (sealedOf_recA h (LK.tagged _ _ _))
  -- whatever the key opens in the list is the content key
  have hp : R.findSome? (opens K kr.1) = some (symmetricKeyCbor ck).enc := by
    refine List.findSome?_unique ⟨_, hinR, opens_seal LK _ _ _⟩ fun s hs q hq => ?_
    rcases hRsub s hs with h1 | h1
    · exact holds s h1 q hq
    · obtain ⟨kr', _, rfl⟩ := List.mem_map.1 h1
      by_cases hkk : kr.1 = kr'.1
      · rw [hkk, opens_seal LK] at hq
        cases hq; rfl
      · rw [opens_seal_other LK _ _ hkk] at hq
        cases hq
  simp only [decryptSubjectToRecipient_eq, hR, firstPlaintext_eq, hp, symmetricKeyOfData_enc ck hck,
    Res.ok_bind]
  exact decryptSubject_built h A LA ck n _ hi hH hrt

/- all hypotheses hold together (toy hash, AEAD and KEM): `"b" [ 1: 10 ]` encrypted to the
keys 1 and 2 -/
example : ∃ r, encryptSubjectToRecipients H toyAead ck [1] (sealsFor sealer ck krs) nd = .ok r ∧
    ∀ k ∈ [1, 2], ∃ x, decryptSubjectToRecipient H toyAead kem k r = .ok x ∧
      x.subject = nd.subject := by
  have hr := nd_encrypted
  refine ⟨_, hr, ?_⟩
  intro k hk
  obtain ⟨x, hx, hs, _⟩ := c10_each_recipient_opens H toyAead toyAead_laws kem_laws ck [1] krs nd _ []
    nd_inv hash_valid subj_rt ck_len nd_recipients nd_noShadow hr k hk (by simp)
  exact ⟨x, hx, hs⟩

/-- C10: a key that is not in the list (and that opens none of the sealed messages already
present in `e`) gets `UnknownRecipient` -/
theorem c10_non_recipient_fails {K : Kem} {S : Sealer} (LK : KemLaws K S)
    (ck n : Bytes) (krs : List (Nat × Nat)) (e r : Env) (olds : List Cbor)
    (hi : Inv h e) (hH : ∀ b, (h.H b).Valid) (hold : recipients h e = .ok olds)
    (hr : encryptSubjectToRecipients h A ck n (sealsFor S ck krs) e = .ok r)
    (k : Nat) (hk : k ∉ krs.map Prod.fst) (holds : ∀ s ∈ olds, opens K k s = none) :
    decryptSubjectToRecipient h A K k r = .err "UnknownRecipient" := by
  obtain ⟨rfl, _⟩ := encryptSubjectToRecipients_ok h A hi hH hr
  obtain ⟨R, hR, hRsub, _⟩ := recipients_of_assertions h hold
    (built_assertions_sub h A ck n (sealsFor S ck krs) e) (sealsFor_tagged LK ck krs)
  have hp : R.findSome? (opens K k) = none := by
    refine List.findSome?_eq_none_iff.2 fun s hs => ?_
    rcases hRsub s hs with h1 | h1
    · exact holds s h1
    · obtain ⟨kr', hkr', rfl⟩ := List.mem_map.1 h1
      exact opens_seal_other LK _ _ fun hkk => hk (List.mem_map.2 ⟨kr', hkr', hkk.symm⟩)
  simp only [decryptSubjectToRecipient_eq, hR, firstPlaintext_eq, hp, Res.ok_bind, Res.err_bind]

example : ∃ r, encryptSubjectToRecipients H toyAead ck [1] (sealsFor sealer ck krs) nd = .ok r ∧
    decryptSubjectToRecipient H toyAead kem 3 r = .err "UnknownRecipient" := by
  have hr := nd_encrypted
  exact ⟨_, hr, c10_non_recipient_fails H toyAead kem_laws ck [1] krs nd _ [] nd_inv hash_valid
    nd_recipients hr 3 (by decide) (by simp)⟩

/-- C10: encrypting to recipients changes no digest beyond adding the `'hasRecipient'`
assertions -/
theorem c10_digest_preserved (ck n : Bytes) (sealeds : List Cbor) (e r : Env)
    (hi : Inv h e) (hH : ∀ b, (h.H b).Valid)
    (hr : encryptSubjectToRecipients h A ck n sealeds e = .ok r) :
    r.subject.digest = e.subject.digest ∧ r.subject.isEncrypted = true ∧
    (∃ r0, sealeds.foldl (fun (acc : Res Env) s => acc.bind fun y => addRecipient h y s) (Res.ok e)
        = .ok r0 ∧ r.digest = r0.digest ∧ r.assertions = r0.assertions ∧ r0.subject = e.subject) ∧
    (sealeds = [] → r.digest = e.digest) := by
  obtain ⟨rfl, _⟩ := encryptSubjectToRecipients_ok h A hi hH hr
  refine ⟨by rw [built_subject]; rfl, by rw [built_subject]; rfl,
    ⟨builtPlain h sealeds e, addRecipients_of_inv h hi _, built_digest h A ck n _ e,
      built_assertions_plain h A ck n _ hi, builtPlain_subject h _ hi⟩, ?_⟩
  rintro rfl
  rw [built_digest]
  simp only [builtPlain, recAs, List.map_nil, List.foldl_nil, (AW.rebuild_of_inv hi).1]

example : ∃ r, encryptSubjectToRecipients H toyAead ck [1] (sealsFor sealer ck krs) nd = .ok r ∧
    r.subject.digest = nd.subject.digest := by
  have hr := nd_encrypted
  exact ⟨_, hr, (c10_digest_preserved H toyAead ck [1] _ nd _ nd_inv hash_valid hr).1⟩

/-- C10: `add_recipient` takes the ability to open away from no key that cannot open the new
sealed message.  `hs`: tag 40019 is all that the model's `recipients()` asks of a
`SealedMessage`. -/
theorem c10_add_recipient_monotone {K : Kem} (e r : Env) (s : Cbor) (hi : Inv h e)
    (hs : ∃ x, s = .tagged TAG_SEALED_MESSAGE x) (hr : addRecipient h e s = .ok r) :
    r.subject = e.subject ∧
    (∀ l, recipients h e = .ok l →
      ∃ l', recipients h r = .ok l' ∧ (∀ x ∈ l, x ∈ l') ∧ (∀ x ∈ l', x ∈ l ∨ x = s) ∧
        (NoShadow e [hasRecipientAssertion h s] → s ∈ l')) ∧
    (∀ k x, opens K k s = none → decryptSubjectToRecipient h A K k e = .ok x →
      ∃ x', decryptSubjectToRecipient h A K k r = .ok x' ∧ x'.digest = r.digest ∧
        x'.assertions = r.assertions) :=
  ⟨AW.add_subject ((addRecipient_eq h e s).symm.trans hr),
    fun _ hl => addRecipient_recipients h hi hs hr hl,
    fun _ _ hno hx => addRecipient_keeps h A hi hs hr hno hx⟩

/-- with `KemLaws`: sealing to `k'` disturbs no other key -/
theorem c10_add_recipient_other_keys {K : Kem} {S : Sealer} (LK : KemLaws K S) (e r : Env)
    (k' : Nat) (p : Bytes) (rnd : Nat) (hi : Inv h e)
    (hr : addRecipient h e (S.sealTo k' p rnd) = .ok r) (k : Nat) (hk : k ≠ k') (x : Env)
    (hx : decryptSubjectToRecipient h A K k e = .ok x) :
    ∃ x', decryptSubjectToRecipient h A K k r = .ok x' ∧ x'.digest = r.digest :=
  let ⟨x', h1, h2, _⟩ := (c10_add_recipient_monotone h A e r _ hi (LK.tagged _ _ _) hr).2.2 k x
    (opens_seal_other LK _ _ hk) hx
  ⟨x', h1, h2⟩

/- recipient 1 opens the envelope encrypted to 1 and 2, also after 4 was added -/
example : ∃ r r', encryptSubjectToRecipients H toyAead ck [1] (sealsFor sealer ck krs) nd = .ok r ∧
    addRecipient H r (sealer.sealTo 4 (symmetricKeyCbor ck).enc 0) = .ok r' ∧
    ∃ x', decryptSubjectToRecipient H toyAead kem 1 r' = .ok x' ∧ x'.digest = r'.digest := by
  have hr := nd_encrypted
  obtain ⟨x, hx, _⟩ := c10_each_recipient_opens H toyAead toyAead_laws kem_laws ck [1] krs nd _ []
    nd_inv hash_valid subj_rt ck_len nd_recipients nd_noShadow hr 1 (by decide) (by simp)
  have hri := built_inv H toyAead ck [1] (sealsFor sealer ck krs) nd_inv hash_valid
  obtain ⟨r', hr'⟩ := addRecipient_isOk H (built H toyAead ck [1] (sealsFor sealer ck krs) nd)
    (sealer.sealTo 4 (symmetricKeyCbor ck).enc 0)
  exact ⟨_, r', hr, hr', c10_add_recipient_other_keys H toyAead kem_laws _ r' 4 _ 0 hri hr' 1
    (by decide) x hx⟩

/-- the reason for `NoShadow`: when the envelope already carries an element with the digest of
the new `'hasRecipient'` assertion (here: its elided form), `add_recipient` changes nothing and
the recipient is *not* added -/
theorem c10_shadowed_recipient_lost (s : Cbor) (subject : Env) (d : Digest) :
    addRecipient h (.node subject [.elided (hasRecipientAssertion h s).digest] d) s =
      .ok (.node subject [.elided (hasRecipientAssertion h s).digest] d) ∧
    recipients h (.node subject [.elided (hasRecipientAssertion h s).digest] d) = .ok [] := by
  refine ⟨?_, rfl⟩
  rw [addRecipient_eq]
  exact AW.add_eq_of_present h _ rfl ⟨_, List.mem_singleton.2 rfl, rfl⟩

/-- C10: `decrypt_to_recipient(encrypt_to_recipient(e)) = e` for the recipient, and
`UnknownRecipient` for every other key -/
theorem c10_encryptToRecipient_roundtrip {K : Kem} {S : Sealer} (LA : AeadLaws A)
    (LK : KemLaws K S) (ck n : Bytes) (k rnd : Nat) (e r : Env) (hi : Inv h e)
    (hH : ∀ b, (h.H b).Valid) (hrt : RoundTrips h (wrap h e)) (hck : ck.length = 32)
    (hr : encryptToRecipient h A ck n (S.sealTo k (symmetricKeyCbor ck).enc rnd) e = .ok r) :
    decryptToRecipient h A K k r = .ok e ∧
      ∀ k', k' ≠ k → decryptToRecipient h A K k' r = .err "UnknownRecipient" := by
  have hiw := hi.newWrapped
  -- the one sealed message of `hr` is `sealsFor S ck [(k, rnd)]`, and `wrap h e` is not refused
  have hr' : encryptSubjectToRecipients h A ck n (sealsFor S ck [(k, rnd)]) (wrap h e) = .ok r :=
    (encryptSubjectToRecipients_eq h A ck n _ hiw hH).trans
      ((encryptToRecipient_eq h A ck n _ hi hH).symm.trans hr)
  have hns : NoShadow (wrap h e) (recAs h (sealsFor S ck [(k, rnd)])) :=
    noShadow_of_pairwise (List.pairwise_singleton _ _)
  constructor
  · obtain ⟨x, hx, hsub, _⟩ := c10_each_recipient_opens h A LA LK ck n [(k, rnd)] (wrap h e) r []
      hiw hH hrt hck (recipients_wrap h e) hns hr' k (by simp) (by simp)
    rw [decryptToRecipient, hx, Res.ok_bind]
    exact unwrap_eq_ok.2 ⟨_, hsub⟩
  · intro k' hk'
    unfold decryptToRecipient
    rw [c10_non_recipient_fails h A LK ck n [(k, rnd)] (wrap h e) r [] hiw hH (recipients_wrap h e)
      hr' k' (by simpa using hk') (by simp)]
    rfl

example : ∃ r, encryptToRecipient H toyAead ck [1] (sealer.sealTo 2 (symmetricKeyCbor ck).enc 0) subj
      = .ok r ∧
    decryptToRecipient H toyAead kem 2 r = .ok subj ∧
    decryptToRecipient H toyAead kem 1 r = .err "UnknownRecipient" := by
  have hr := encryptToRecipient_eq H toyAead ck [1] (sealer.sealTo 2 (symmetricKeyCbor ck).enc 0)
    subj_inv hash_valid
  obtain ⟨h1, h2⟩ := c10_encryptToRecipient_roundtrip H toyAead toyAead_laws kem_laws ck [1] 2 0 subj _
    subj_inv hash_valid wrap_subj_rt ck_len hr
  exact ⟨_, hr, h1, h2 1 (by decide)⟩

/-- C10: no recipient operation panics (the decrypting ones on a `Canon` envelope, the
encrypting ones under `Inv` and a 32-byte hash); `encrypt_to_recipient`, whose `unwrap()` would
panic on an error, then succeeds -/
theorem c10_no_panic {K : Kem} (e : Env) (p : String) :
    recipients h e ≠ .panic p ∧
    (∀ s, addRecipient h e s ≠ .panic p) ∧
    (Canon e → ∀ key, decryptSubjectToRecipient h A K key e ≠ .panic p ∧
      decryptToRecipient h A K key e ≠ .panic p) ∧
    (Inv h e → (∀ b, (h.H b).Valid) → ∀ ck n,
      (∀ sealeds, encryptSubjectToRecipients h A ck n sealeds e ≠ .panic p) ∧
      (∀ s, ∃ r, encryptToRecipient h A ck n s e = .ok r)) := by
  refine ⟨recipients_ne_panic h e p, fun s => Res.ne_panic_of_isOk (addRecipient_isOk h e s) p, ?_, ?_⟩
  · intro hc key
    exact ⟨decryptSubjectToRecipient_ne_panic h A hc p, decryptToRecipient_ne_panic h A hc p⟩
  · intro hi hH ck n
    refine ⟨fun sealeds => ?_, fun s => ⟨_, encryptToRecipient_eq h A ck n s hi hH⟩⟩
    rw [encryptSubjectToRecipients_eq h A ck n sealeds hi hH]
    cases Obs.encryptRefusal e <;> nofun

example (p : String) : decryptSubjectToRecipient H toyAead kem 1 nd ≠ .panic p :=
  ((c10_no_panic H toyAead (K := kem) nd p).2.2.1 nd_inv.2 1).1

/-- C10 (`first_plaintext_in_sealed_messages`): a sealed message of another encapsulation
scheme than the key's is never handed to `unseal`: two KEMs that agree on the schemes and on
the messages of the key's own scheme give the same outcome, and such a message can be dropped
from the list without changing what is found -/
theorem c10_scheme_mismatch_skipped (K K' : Kem) (key : Nat) (e : Env)
    (hs : K'.schemeOfSealed = K.schemeOfSealed) (hk : K'.schemeOfKey key = K.schemeOfKey key)
    (hu : ∀ s, K.schemeOfSealed s = K.schemeOfKey key → K'.unsealMsg key s = K.unsealMsg key s) :
    decryptSubjectToRecipient h A K' key e = decryptSubjectToRecipient h A K key e ∧
    ∀ s l1 l2, K.schemeOfSealed s ≠ K.schemeOfKey key →
      firstPlaintext K key (l1 ++ s :: l2) = firstPlaintext K key (l1 ++ l2) :=
  ⟨decryptSubjectToRecipient_congr h A e (opens_congr hs hk hu),
    fun _ l1 l2 hm => firstPlaintext_skip (by simp [opens, hm]) l1 l2⟩

/- a KEM that would wrongly "open" messages of the other scheme gives the same outcome -/
example (e : Env) :
    decryptSubjectToRecipient H toyAead
      ⟨fun key s => if kem.schemeOfSealed s = kem.schemeOfKey key then kem.unsealMsg key s else some [],
        kem.schemeOfSealed, kem.schemeOfKey⟩ 1 e =
    decryptSubjectToRecipient H toyAead kem 1 e :=
  (c10_scheme_mismatch_skipped H toyAead kem
    ⟨fun key s => if kem.schemeOfSealed s = kem.schemeOfKey key then kem.unsealMsg key s else some [],
      kem.schemeOfSealed, kem.schemeOfKey⟩ 1 e rfl rfl (by intro s hs; simp only [hs, if_true])).1

/-! seal / unseal (`src/seal.rs`, `Model/Seal.lean`): sign, then encrypt to the recipient;
decrypt, then verify.  `c10_unseal_seal` composes C09 (`added_signature_verifies_fresh`,
`other_key_rejects`) with `c10_encryptToRecipient_roundtrip`. -/

/-- `sign` in closed form: the wrapped envelope carrying one `'signed'` assertion -/
theorem signWrapped_eq (e : Env) (sig : Cbor) :
    signWrapped h e sig = .ok (signedWrapper h e (fun _ => sig)) :=
  addWrapperSig h e (fun _ => sig)

theorem sealEnvelope_eq (e : Env) (sig : Cbor) (ck n : Bytes) (s : Cbor) :
    sealEnvelope h A e sig ck n s =
      encryptToRecipient h A ck n s (signedWrapper h e (fun _ => sig)) := by
  unfold sealEnvelope
  rw [signWrapped_eq, Res.ok_bind]

/-- C10 (seal / unseal): an envelope sealed by sender `sk` to recipient `rk` unseals to exactly
the original envelope; any other recipient key gets `UnknownRecipient`, any other sender key
`UnverifiedSignature` -/
theorem c10_unseal_seal {V : SigScheme} {S : Signer} {K : Kem} {Sl : Sealer}
    (LS : SigLaws V S) (LA : AeadLaws A) (LK : KemLaws K Sl) (ck n : Bytes) (sk rk rnd : Nat)
    (e sealed : Env) (hi : Inv h e) (hH : ∀ b, (h.H b).Valid) (hck : ck.length = 32)
    (hrt : RoundTrips h (wrap h (signedWrapper h e (fun _ => S.sign sk (wrap h e).digest))))
    (hs : sealEnvelope h A e (S.sign sk (wrap h e).digest) ck n
        (Sl.sealTo rk (symmetricKeyCbor ck).enc rnd) = .ok sealed) :
    unsealEnvelope h A V K sk rk sealed = .ok e ∧
    (∀ rk', rk' ≠ rk → unsealEnvelope h A V K sk rk' sealed = .err "UnknownRecipient") ∧
    (∀ sk', sk' ≠ sk → unsealEnvelope h A V K sk' rk sealed = .err "UnverifiedSignature") := by
  rw [sealEnvelope_eq] at hs
  obtain ⟨hdec, hother⟩ := c10_encryptToRecipient_roundtrip h A LA LK ck n rk rnd _ sealed
    (signedWrapper_inv h hi _) hH hrt hck hs
  have hr : addSignature h (wrap h e) (S.sign sk (wrap h e).subject.digest) []
      (fun _ => S.sign sk (wrap h e).digest) =
      .ok (signedWrapper h e (fun _ => S.sign sk (wrap h e).digest)) :=
    signWrapped_eq h e _
  have hver : ∀ sk', hasSignatureFrom h V sk' (signedWrapper h e fun _ => S.sign sk (wrap h e).digest) =
      .ok (decide (sk' = sk)) := by
    intro sk'
    by_cases hk : sk' = sk
    · rw [hk, decide_eq_true rfl]
      exact added_signature_verifies_fresh h LS sk (wrap h e) _ _ (fun x hx => by cases hx) hr
    · rw [decide_eq_false hk]
      exact other_key_rejects h LS sk sk' hk (wrap h e) _ _ [] _ (by rw [hasSig_eq]; rfl) hr
  unfold unsealEnvelope
  refine ⟨?_, fun rk' hne => ?_, fun sk' hne => ?_⟩
  · rw [hdec, Res.ok_bind]
    unfold verifyWrapped verifySignatureFrom
    rw [hver, decide_eq_true rfl]
    rfl
  · rw [hother rk' hne]
    rfl
  · rw [hdec, Res.ok_bind]
    unfold verifyWrapped verifySignatureFrom
    rw [hver, decide_eq_false hne]
    rfl

/-- `seal` succeeds on an envelope satisfying the invariant, the hash returning 32 bytes -/
theorem c10_seal_total (e : Env) (sig : Cbor) (ck n : Bytes) (sealedMsg : Cbor) (hi : Inv h e)
    (hH : ∀ b, (h.H b).Valid) : ∃ r, sealEnvelope h A e sig ck n sealedMsg = .ok r :=
  ⟨_, (sealEnvelope_eq h A e sig ck n sealedMsg).trans
    (encryptToRecipient_eq h A ck n sealedMsg (signedWrapper_inv h hi _) hH)⟩

end

/-- a hash with small values, so that the toy signature `#6.40020([key, digest-as-number])`
is an encodable CBOR value -/
def Ex.H8 : Hash := ⟨fun b => ⟨(b.foldl (fun acc x => acc * 31 + x.toNat + 1) 7) % 251⟩⟩

theorem Ex.H8_valid (b : Bytes) : (Ex.H8.H b).Valid :=
  Nat.lt_trans (Nat.mod_lt _ (by decide)) (by decide)

def Ex.subj8 : Env := newLeaf Ex.H8 (.text [0x62])

/- the hypotheses are satisfiable: `"b"` sealed by sender 1 to recipient 2 -/
example : ∃ sealed,
    sealEnvelope Ex.H8 toyAead Ex.subj8 (Toy.signer.sign 1 (wrap Ex.H8 Ex.subj8).digest) Ex.ck []
      (sealer.sealTo 2 (symmetricKeyCbor Ex.ck).enc 0) = .ok sealed ∧
    unsealEnvelope Ex.H8 toyAead Toy.scheme kem 1 2 sealed = .ok Ex.subj8 ∧
    unsealEnvelope Ex.H8 toyAead Toy.scheme kem 1 4 sealed = .err "UnknownRecipient" ∧
    unsealEnvelope Ex.H8 toyAead Toy.scheme kem 3 2 sealed = .err "UnverifiedSignature" := by
  have hinv : Inv Ex.H8 Ex.subj8 := Inv.newLeaf _ _
  obtain ⟨sealed, hs⟩ := c10_seal_total Ex.H8 toyAead Ex.subj8 (Toy.signer.sign 1 (wrap Ex.H8 Ex.subj8).digest)
    Ex.ck [] (sealer.sealTo 2 (symmetricKeyCbor Ex.ck).enc 0) hinv Ex.H8_valid
  obtain ⟨h1, h2, h3⟩ := c10_unseal_seal Ex.H8 toyAead Toy.laws toyAead_laws kem_laws Ex.ck [] 1 2 0
    Ex.subj8 sealed hinv Ex.H8_valid Ex.ck_len
    (decode_encode Ex.H8 _ (signedWrapper_inv Ex.H8 hinv _).newWrapped
      (by simp [wrap, newWrapped, signedWrapper, mkNode, sortByDigest, sigAssertion, signedKV, newAssertion,
        newKnownValue, newLeaf, Ex.subj8, EncShape, EncShapeList])
      (by
        -- the subject; of the one assertion the predicate, then tag, length and entries of the
        -- signature `#6.40020([1, digest])`; the number of elements
        rw [signedWrapper, mkNode, AW.sortByDigest_singleton]
        exact ⟨⟨by decide, rfl⟩, ⟨⟨(by decide : KV_SIGNED < 2 ^ 64), by decide, by decide,
          (by decide : 1 < 2 ^ 64), Nat.lt_trans (Nat.mod_lt _ (by decide)) (by decide), trivial⟩,
          trivial⟩, by decide⟩)) hs
  exact ⟨sealed, hs, h1, h2 4 (by decide), h3 3 (by decide)⟩

end EnvVerif
