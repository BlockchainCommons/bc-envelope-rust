/-
  Props/C07.lean — order- and route-independent assembly.

  "Adding the same set of assertions to the same subject in any order and with any
  repetition produces byte-identical envelopes; adding an assertion already present
  changes nothing, removing an assertion just added restores the previous envelope
  (removing the last one yields the bare subject), unwrapping a wrapped envelope returns
  it, and no operation alters the envelope it was applied to."

  The last clause holds by construction in the model (all functions are pure); it is
  checked on the implementation, not proved here.  The property's second sentence: the last section.
-/
import EnvVerif.Lemmas.AssembleLemmas
import EnvVerif.Lemmas.CollectionLemmas
import EnvVerif.Props.C05
namespace EnvVerif
open Env AW

/-- the assertions stored by `addAll`: strictly ascending; the old ones, plus the added ones
whose digest was not already present (digests injective on the added ones) -/
theorem addAll_assertions (h : Hash) (s : Env) (l : List Env) (hi : Inv h s)
    (hslot : ∀ a ∈ l, a.slotOk = true)
    (hinj : ∀ a ∈ l, ∀ b ∈ l, a.digest = b.digest → a = b) :
    ∃ e', addAll h s l = .ok e' ∧ e'.subject = s.subject ∧ AscDigests e'.assertions ∧
      ∀ x, x ∈ e'.assertions ↔
        x ∈ s.assertions ∨ (x ∈ l ∧ ∀ y ∈ s.assertions, y.digest ≠ x.digest) := by
  obtain ⟨e', he'⟩ := addAll_isOk h l s hslot
  obtain ⟨_, hsub, has⟩ := addAll_ok l he'
  exact ⟨e', he', hsub, has ▸ foldl_normAdd_asc l hi.2.asc,
    has ▸ mem_foldl_normAdd l hinj⟩

/-- **any order, any repetition**: the same set of assertions (no two of them with one digest)
added to the same envelope gives the same `Res Env` value; the added elements need not be legal
slots (both sides are then the same error) -/
theorem addAll_perm_strong (h : Hash) (s : Env) (l1 l2 : List Env) (hi : Inv h s)
    (hmem : ∀ a, a ∈ l1 ↔ a ∈ l2)
    (hinj : ∀ a ∈ l1, ∀ b ∈ l1, a.digest = b.digest → a = b) :
    addAll h s l1 = addAll h s l2 := by
  rw [addAll_of_inv hi l1, addAll_of_inv hi l2]
  have hall : l1.all slotOk = l2.all slotOk := by
    rw [Bool.eq_iff_iff, List.all_eq_true, List.all_eq_true]
    exact ⟨fun hh a ha => hh a ((hmem a).2 ha), fun hh a ha => hh a ((hmem a).1 ha)⟩
  rw [hall, foldl_normAdd_congr_mem hi.2.asc hmem hinj]

/-- `addAll_perm_strong` with an unused slot hypothesis (DESIGN.md Appendix D asks `SlotOk a ∧ Inv h a`
of the added elements; neither is needed) -/
theorem addAll_perm (h : Hash) (s : Env) (l1 l2 : List Env) (hi : Inv h s)
    (_hslot : ∀ a ∈ l1, a.slotOk = true) (hmem : ∀ a, a ∈ l1 ↔ a ∈ l2)
    (hinj : ∀ a ∈ l1, ∀ b ∈ l1, a.digest = b.digest → a = b) :
    addAll h s l1 = addAll h s l2 :=
  addAll_perm_strong h s l1 l2 hi hmem hinj

/-- under the hypotheses of `addAll_perm` both sides succeed (the statement is not an
equality of errors) -/
theorem addAll_perm_ok (h : Hash) (s : Env) (l1 l2 : List Env) (hi : Inv h s)
    (hslot : ∀ a ∈ l1, a.slotOk = true) (hmem : ∀ a, a ∈ l1 ↔ a ∈ l2)
    (hinj : ∀ a ∈ l1, ∀ b ∈ l1, a.digest = b.digest → a = b) :
    ∃ e', addAll h s l1 = .ok e' ∧ addAll h s l2 = .ok e' := by
  obtain ⟨e', he', _⟩ := addAll_assertions h s l1 hi hslot hinj
  exact ⟨e', he', (addAll_perm h s l1 l2 hi hslot hmem hinj) ▸ he'⟩

/-- the injectivity hypothesis of `addAll_perm` cannot be dropped: the same assertion supplied
once in the clear and once elided (equal digests) — the first one wins, so the order shows -/
theorem addAll_first_wins :
    ∃ (h : Hash) (s a b : Env), Inv h s ∧ a.slotOk = true ∧ b.slotOk = true ∧ a.digest = b.digest ∧
      addAll h s [a, b] ≠ addAll h s [b, a] := by
  refine ⟨Toy.hLen, Toy.exSubj, Toy.exA1, .elided Toy.exA1.digest, ⟨rfl, trivial⟩, rfl, rfl, rfl, ?_⟩
  -- of two elements with one digest added to the bare subject the first is stored
  have key : ∀ a b : Env, a.slotOk = true → b.slotOk = true → a.digest = b.digest →
      ∃ r, addAll Toy.hLen Toy.exSubj [a, b] = .ok r ∧ r.assertions = [a] := by
    intro a b ha hb hd
    obtain ⟨r, hr⟩ := addAll_isOk Toy.hLen [a, b] Toy.exSubj
      (List.forall_mem_cons.2 ⟨ha, List.forall_mem_cons.2 ⟨hb, nofun⟩⟩)
    refine ⟨r, hr, (addAll_ok _ hr).2.2.trans ?_⟩
    show normAdd (normAdd [] a) b = [a]
    rw [normAdd_nil, normAdd_present ⟨a, List.mem_cons_self, hd⟩]
  obtain ⟨r1, h1, ha1⟩ := key Toy.exA1 (.elided Toy.exA1.digest) rfl rfl rfl
  obtain ⟨r2, h2, ha2⟩ := key (.elided Toy.exA1.digest) Toy.exA1 rfl rfl rfl
  rw [h1, h2]
  intro heq
  cases heq
  rw [ha1] at ha2
  cases ha2

/-- `congrArg encode`: says nothing about `encode` -/
theorem encode_congr {e1 e2 : Env} (he : e1 = e2) : encode e1 = encode e2 := by rw [he]

/-- **any order ⇒ byte-identical** -/
theorem addAll_perm_bytes (h : Hash) (s : Env) (l1 l2 : List Env) (hi : Inv h s)
    (hslot : ∀ a ∈ l1, a.slotOk = true) (hmem : ∀ a, a ∈ l1 ↔ a ∈ l2)
    (hinj : ∀ a ∈ l1, ∀ b ∈ l1, a.digest = b.digest → a = b)
    (e1 e2 : Env) (h1 : addAll h s l1 = .ok e1) (h2 : addAll h s l2 = .ok e2) :
    encode e1 = encode e2 ∧ e1.digest = e2.digest := by
  cases Res.ok_unique h1 (addAll_perm h s l1 l2 hi hslot hmem hinj ▸ h2)
  exact ⟨rfl, rfl⟩

/-- **adding an assertion already present (by digest) changes nothing** -/
theorem add_present (h : Hash) (e a : Env) (hslot : a.slotOk = true)
    (hp : ∃ x ∈ e.assertions, x.digest = a.digest) : addAssertionEnvelope h e a = .ok e :=
  add_eq_of_present h e hslot hp

/-- adding twice is adding once (no hypothesis on `e`) -/
theorem add_idempotent (h : Hash) (e a e' : Env) (hadd : addAssertionEnvelope h e a = .ok e') :
    addAssertionEnvelope h e' a = .ok e' := by
  obtain ⟨hslot, _, has⟩ := add_ok hadd
  exact add_present h e' a hslot (has ▸ normAdd_digest e.assertions a)

/-- the common form of `remove_add` and `remove_last_subject`: `e` is determined by its subject and
its ascending assertion list (it satisfies the invariant, or it is no node) -/
theorem remove_add_of_rebuilt (h : Hash) {e a e' : Env} (hr : rebuild h e.subject e.assertions = e)
    (hasc : AscDigests e.assertions) (hnew : ∀ x ∈ e.assertions, x.digest ≠ a.digest)
    (hadd : addAssertionEnvelope h e a = .ok e') : removeAssertion h e' a = .ok e := by
  -- the new element lands between `l1` and `l2`; the search finds it there and the rest is `e`'s list
  obtain ⟨l1, l2, has, hL⟩ := sort_snoc_split hasc hnew
  obtain ⟨hf, he⟩ := findIdx_split (l2 := l2) (a := a)
    (fun x hx => hnew x (has ▸ List.mem_append_left _ hx))
  rw [removeAssertion_eq, add_subject hadd, add_assertions hadd, normAdd_fresh hnew, hL, hf]
  simp only [he, ← has, sortByDigest_of_asc hasc, hr]

/-- **removing an assertion just added restores the previous envelope**; `hslot` is not used: it
follows from `hadd` (`add_slotOk`) -/
theorem remove_add (h : Hash) (e a e' : Env) (hi : Inv h e) (hslot : a.slotOk = true)
    (hnew : ∀ x ∈ e.assertions, x.digest ≠ a.digest)
    (hadd : addAssertionEnvelope h e a = .ok e') :
    removeAssertion h e' a = .ok e :=
  remove_add_of_rebuilt h (rebuild_of_inv hi).1 hi.2.asc hnew hadd

/-- **removal is by digest**: no test of what kind of element the target is stands in front of the
search, so an assertion is removed just the same when named by its elided (or any digest-equal)
form; and `remove_add` holds for every element that may stand in an assertion slot, obscured ones
included -/
theorem remove_by_digest (h : Hash) (e a b : Env) (hd : a.digest = b.digest) :
    removeAssertion h e a = removeAssertion h e b := by
  unfold removeAssertion; rw [hd]

theorem remove_by_elided_form (h : Hash) (e a : Env) :
    removeAssertion h e (newElided a.digest) = removeAssertion h e a :=
  remove_by_digest h e _ _ rfl

/-- **removing the last one yields the bare subject**: for an envelope that is not a node no
invariant is needed -/
theorem remove_last_subject (h : Hash) (e a e' : Env) (hnn : e.isNode = false)
    (hadd : addAssertionEnvelope h e a = .ok e') :
    e'.assertions = [a] ∧ removeAssertion h e' a = .ok e := by
  have he : e.assertions = [] ∧ e.subject = e := by cases e <;> first | exact ⟨rfl, rfl⟩ | cases hnn
  refine ⟨by rw [add_assertions hadd, he.1, normAdd_nil], remove_add_of_rebuilt h ?_ ?_ ?_ hadd⟩ <;>
    rw [he.1]
  · exact he.2
  · exact .nil
  · exact nofun

/-- **unwrapping a wrapped envelope returns it** -/
theorem unwrap_wrap (h : Hash) (e : Env) : unwrap (wrap h e) = .ok e := rfl

section Examples
open AW.Toy
/-- `addAll_perm`, `addAll_perm_ok`, `addAll_perm_bytes`: a node with two assertions, a
third one added together with a repetition of an existing one, in two different orders -/
example : Inv hLen exNode ∧ (∀ a ∈ [exA3, exA1, exA3], a.slotOk = true) ∧
    (∀ a, a ∈ [exA3, exA1, exA3] ↔ a ∈ [exA1, exA3]) ∧
    (∀ a ∈ [exA3, exA1, exA3], ∀ b ∈ [exA3, exA1, exA3], a.digest = b.digest → a = b) := by
  refine ⟨exNode_inv, by decide +kernel, ?_, ?_⟩
  · intro a; simp only [List.mem_cons, List.not_mem_nil, or_false]
    constructor
    · rintro (h | h | h) <;> simp [h]
    · rintro (h | h) <;> simp [h]
  · have h13 : exA1.digest ≠ exA3.digest := by rw [exA1_digest]; decide
    intro a ha b hb
    simp only [List.mem_cons, List.not_mem_nil, or_false] at ha hb
    rcases ha with rfl | rfl | rfl <;> rcases hb with rfl | rfl | rfl <;>
      first | exact fun _ => rfl | exact fun h => absurd h h13 | exact fun h => absurd h.symm h13

/-- `remove_add`: adding `exA3` (new digest) to the node -/
example : Inv hLen exNode ∧ exA3.slotOk = true ∧ (∀ x ∈ exNode.assertions, x.digest ≠ exA3.digest) ∧
    ∃ e', addAssertionEnvelope hLen exNode exA3 = .ok e' := by
  refine ⟨exNode_inv, rfl, ?_, add_isOk hLen exNode rfl⟩
  intro x hx
  rcases List.mem_cons.1 hx with rfl | hx
  · decide
  · cases List.mem_singleton.1 hx; rw [exA1_digest]; decide

/-- `remove_last_subject`, `add_idempotent`: the bare subject -/
example : exSubj.isNode = false ∧ ∃ e', addAssertionEnvelope hLen exSubj exA1 = .ok e' :=
  ⟨rfl, add_isOk hLen exSubj rfl⟩
end Examples

/-! ### "Equal input values - including unordered collections (sets, maps) used as subject, predicate or object -
always produce equal digests and bytes"

A `HashSet` / `HashMap` (and dcbor's own `Set` / `Map`) reaches the envelope as a leaf whose CBOR is built by
inserting the entries, in whatever order the collection yields them, into dcbor's map ordered by encoded key
(Model/Collections.lean).  The theorems say that the order and the number of insertions cannot show. -/

section Collections
variable (h : Hash)

/-- **sets**: the same valid members, in any order and with any repetition, give the identical leaf
envelope (hence equal digests and bytes wherever it is used) -/
theorem c07_set_leaf_order_independent (xs ys : List Cbor) (vx : Cbor.ValidList xs) (vy : Cbor.ValidList ys)
    (hm : ∀ x, x ∈ xs ↔ x ∈ ys) : newSetLeaf h xs = newSetLeaf h ys := by
  simp only [newSetLeaf, setCbor_ext xs ys vx vy hm]

theorem c07_set_leaf_perm (xs ys : List Cbor) (vx : Cbor.ValidList xs) (hp : xs.Perm ys) :
    newSetLeaf h xs = newSetLeaf h ys := by
  have vy : Cbor.ValidList ys := by
    rw [Cbor.validList_iff] at vx ⊢
    intro y hy; exact vx y (hp.mem_iff.mpr hy)
  exact c07_set_leaf_order_independent h xs ys vx vy (fun x => hp.mem_iff)

/-- **maps**; `Coh`: no two different entries under one encoded key (a `HashMap` has one entry per key) -/
theorem c07_map_leaf_order_independent (l₁ l₂ : List (Cbor × Cbor)) (c₁ : Coh l₁) (c₂ : Coh l₂)
    (hm : ∀ p, p ∈ l₁ ↔ p ∈ l₂) : newMapLeaf h l₁ = newMapLeaf h l₂ := by
  simp only [newMapLeaf, mapCbor, mapOfList_ext l₁ l₂ c₁ c₂ hm]

/-- valid entries with pairwise different keys (what a `HashMap` holds) satisfy `Coh` -/
theorem coh_of_distinct_keys (l : List (Cbor × Cbor)) (hv : Cbor.ValidPairs l)
    (hk : ∀ p q, p ∈ l → q ∈ l → p.1 = q.1 → p = q) : Coh l := by
  rw [Cbor.validPairs_iff] at hv
  intro p q hp hq he
  exact hk p q hp hq (enc_injective_of_valid _ _ (hv p hp).1 (hv q hq).1 he)

/-- adds nothing to `c07_set_leaf_order_independent`: equal `Env` terms have equal digests and bytes -/
theorem c07_set_leaf_digest_bytes (xs ys : List Cbor) (vx : Cbor.ValidList xs) (vy : Cbor.ValidList ys)
    (hm : ∀ x, x ∈ xs ↔ x ∈ ys) :
    (newSetLeaf h xs).digest = (newSetLeaf h ys).digest ∧ encode (newSetLeaf h xs) = encode (newSetLeaf h ys) := by
  rw [c07_set_leaf_order_independent h xs ys vx vy hm]; exact ⟨rfl, rfl⟩

/-- with valid entries, fewer than 2^64, the collection leaves are valid dCBOR, so they round-trip -/
theorem c07_set_leaf_roundtrip (xs : List Cbor) (vx : Cbor.ValidList xs) (hl : xs.length < 2 ^ 64) :
    decode h (encode (newSetLeaf h xs)) = .ok (newSetLeaf h xs) :=
  decode_encode_leaf h _ (setCbor_valid xs vx hl)

theorem c07_map_leaf_roundtrip (kvs : List (Cbor × Cbor)) (hv : Cbor.ValidPairs kvs) (hl : kvs.length < 2 ^ 64) :
    decode h (encode (newMapLeaf h kvs)) = .ok (newMapLeaf h kvs) :=
  decode_encode_leaf h _ (mapCbor_valid kvs hv hl)

/-- whatever the insertion order; this is the canonical form the decoder demands -/
theorem c07_map_entries_ascending (kvs : List (Cbor × Cbor)) : Cbor.KeysAsc (Cbor.keysEnc (mapOfList kvs)) :=
  asc_mapOfList kvs

/- non-vacuity: two insertion orders of {1, "a", 2}, one with a repetition -/
example : setCbor [.uint 2, .text [97], .uint 1, .uint 2] = setCbor [.uint 1, .uint 2, .text [97]] := by
  apply setCbor_ext
  · simp [Cbor.ValidList, Cbor.Valid, Cbor.utf8Valid]
  · simp [Cbor.ValidList, Cbor.Valid, Cbor.utf8Valid]
  · intro x; simp only [List.mem_cons, List.not_mem_nil, or_false]
    constructor
    · rintro (h | h | h | h) <;> simp [h]
    · rintro (h | h | h) <;> simp [h]

end Collections

end EnvVerif
