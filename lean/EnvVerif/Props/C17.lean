/-
  Props/C17.lean — salting (`src/extension/salt.rs`, `add_assertion_salted` of
  `src/base/assertions.rs`).

  The salt bytes are an explicit argument of the model (`draw n` is what the RNG returns for
  `n` bytes), so "random" is "arbitrary".  For `add_salt()` (length proportional to the
  serialized size) the model has the range that `Salt::new_for_size_using` of `bc-components`
  asks for (`saltRange`), with the two products it rounds in `f64` as parameters; that the
  dependency then draws inside the range is its contract, checked by the oracle (DESIGN C17).
  Everything after the draw is `addSaltInstance`.

  Collision freedom is never assumed globally: a statement that needs it takes
  `CollFree h a b` for the two images it names, and `∀ b, (h.H b).Valid`.

  The freshness hypotheses are needed: the library ignores an add whose digest is already
  present (`c17_addSaltInstance_present`).

  Only `c17_salt_decorrelates` and `c17_salted_add_decorrelates` use `Inv h e` (for the digest of
  the node that received the element); elsewhere it is carried unused: the closed form of the
  add needs no invariant.
-/
import EnvVerif.Lemmas.ExtSamples
namespace EnvVerif
open Env AW ExtL InvL

theorem c17_addSaltInstance_total (h : Hash) (e : Env) (salt : Bytes) :
    ∃ r, addSaltInstance h e salt = .ok r :=
  addAssertionUnwrap_isOk h e _ _

/-- subject and existing assertions unchanged, exactly one new assertion: `'salt': Salt(bytes)` -/
theorem c17_addSaltInstance_shape {h : Hash} {e r : Env} {salt : Bytes} (hi : Inv h e)
    (hfresh : ∀ x ∈ e.assertions, x.digest ≠ (saltAssertion h salt).digest)
    (hr : addSaltInstance h e salt = .ok r) :
    r.subject = e.subject ∧
    (∀ a, a ∈ r.assertions ↔ a ∈ e.assertions ∨ a = saltAssertion h salt) ∧
    r.assertions.length = e.assertions.length + 1 ∧
    r.assertions.Perm (e.assertions ++ [saltAssertion h salt]) ∧
    saltAssertion h salt =
      newAssertion h (newKnownValue h KV_SALT) (newLeaf h (.tagged TAG_SALT (.bytes salt))) := by
  obtain ⟨h1, h2, h3, h4⟩ := add_fresh hfresh (addSaltInstance_eq h e salt ▸ hr)
  exact ⟨h1, h2, h3, h4, rfl⟩

example : ∃ r, Inv InvL.toyHash InvL.sNode ∧
    (∀ x ∈ InvL.sNode.assertions, x.digest ≠ (saltAssertion InvL.toyHash [1,2,3,4,5,6,7,8]).digest) ∧
    addSaltInstance InvL.toyHash InvL.sNode [1,2,3,4,5,6,7,8] = .ok r := by
  obtain ⟨r, hr⟩ := c17_addSaltInstance_total toyHash sNode [1,2,3,4,5,6,7,8]
  exact ⟨r, sNode_inv, fun x hx => (sample_salts.2.2.1 x hx).1, hr⟩

/-- the salted envelope has exactly one more 'salt' assertion, and if it had none before, the
salt is what the predicate lookup returns -/
theorem c17_addSaltInstance_one_salt {h : Hash} {e r : Env} {salt : Bytes} (hi : Inv h e)
    (hfresh : ∀ x ∈ e.assertions, x.digest ≠ (saltAssertion h salt).digest)
    (hr : addSaltInstance h e salt = .ok r) :
    (assertionsWithPredicate r (newKnownValue h KV_SALT)).Perm
      (assertionsWithPredicate e (newKnownValue h KV_SALT) ++ [saltAssertion h salt]) ∧
    (assertionsWithPredicate e (newKnownValue h KV_SALT) = [] →
      assertionsWithPredicate r (newKnownValue h KV_SALT) = [saltAssertion h salt] ∧
      objectForPredicate r (newKnownValue h KV_SALT) = .ok (newLeaf h (saltCbor salt))) := by
  rw [addSaltInstance_eq] at hr
  have hm : matchesPred (saltAssertion h salt) (newKnownValue h KV_SALT) = true := beq_self_eq_true _
  refine ⟨by simpa only [hm, if_true] using awp_add_perm (newKnownValue h KV_SALT) hfresh hr,
    fun hnone => ?_⟩
  have h1 := awp_add_single hfresh hnone hm hr
  exact ⟨h1, ofp_single h1 rfl⟩

example : Inv InvL.toyHash InvL.sSubj ∧
    (∀ x ∈ InvL.sSubj.assertions, x.digest ≠ (saltAssertion InvL.toyHash [9]).digest) ∧
    assertionsWithPredicate InvL.sSubj (newKnownValue InvL.toyHash KV_SALT) = [] :=
  ⟨sSubj_inv, fun _ hx => (nomatch hx), rfl⟩

/-- an add whose digest is already among the assertions is ignored -/
theorem c17_addSaltInstance_present {h : Hash} {e r : Env} {salt : Bytes} (hi : Inv h e)
    (hp : ∃ x ∈ e.assertions, x.digest = (saltAssertion h salt).digest)
    (hr : addSaltInstance h e salt = .ok r) : r = e :=
  AW.add_ok_of_present hp (addSaltInstance_eq h e salt ▸ hr)

example : Inv InvL.toyHash (nodeOf InvL.toyHash InvL.sSubj [saltAssertion InvL.toyHash [1]]) ∧
    ∃ x ∈ (nodeOf InvL.toyHash InvL.sSubj [saltAssertion InvL.toyHash [1]]).assertions,
      x.digest = (saltAssertion InvL.toyHash [1]).digest :=
  ⟨rebuild_inv sSubj_inv (as := [_])
      (List.forall_mem_singleton.2 ((Inv.newKnownValue _ _).newAssertion (Inv.newLeaf _ _)))
      (List.pairwise_singleton _ _) (List.forall_mem_singleton.2 rfl),
    _, List.mem_singleton.2 rfl, rfl⟩

theorem c17_addSaltWithLen_refuses_short (h : Hash) (e : Env) {count : Nat} (draw : Nat → Bytes)
    (hc : count < 8) : addSaltWithLen h e count draw = .err "dep:Salt_length_is_too_short" := by
  simp [addSaltWithLen, hc]

theorem c17_addSaltWithLen_ok (h : Hash) (e : Env) {count : Nat} (draw : Nat → Bytes)
    (hc : 8 ≤ count) : addSaltWithLen h e count draw = addSaltInstance h e (draw count) := by
  simp [addSaltWithLen, Nat.not_lt.2 hc]

theorem c17_addSaltInRange_refuses_short (h : Hash) (e : Env) {lo : Nat} (hi pick : Nat)
    (draw : Nat → Bytes) (hc : lo < 8) :
    addSaltInRange h e lo hi pick draw = .err "dep:Salt_length_is_too_short" := by
  simp [addSaltInRange, hc]

/-- `hi` plays no part: the model's `addSaltInRange` does not look at it (that the RNG picks
inside the range is its contract; an inverted range, on which the dependency's
`rng_next_in_closed_range` asserts, is outside the model) -/
theorem c17_addSaltInRange_ok (h : Hash) (e : Env) {lo pick : Nat} (hi : Nat) (draw : Nat → Bytes)
    (hc : 8 ≤ lo) (hp : lo ≤ pick) :
    addSaltInRange h e lo hi pick draw = addSaltInstance h e (draw pick) := by
  rw [addSaltInRange, if_neg (Nat.not_lt.2 hc), c17_addSaltWithLen_ok h e draw (Nat.le_trans hc hp)]

/-- a successful salting with a requested length or range added, as `addSaltInstance` does, a
salt of that length or in that range (at least 8) - given an RNG that honours its contract
(`hdraw`, `lo ≤ pick ≤ hi`) -/
theorem c17_salt_length {h : Hash} {e r : Env} {lo hi pick : Nat} {draw : Nat → Bytes}
    (hdraw : ∀ n, (draw n).length = n) :
    (addSaltWithLen h e pick draw = .ok r →
      ∃ s, s.length = pick ∧ 8 ≤ s.length ∧ addSaltInstance h e s = .ok r) ∧
    (lo ≤ pick → pick ≤ hi → addSaltInRange h e lo hi pick draw = .ok r →
      ∃ s, lo ≤ s.length ∧ s.length ≤ hi ∧ 8 ≤ s.length ∧ addSaltInstance h e s = .ok r) := by
  constructor
  · intro hr
    by_cases hc : pick < 8
    · rw [c17_addSaltWithLen_refuses_short h e draw hc] at hr; cases hr
    · rw [c17_addSaltWithLen_ok h e draw (Nat.not_lt.1 hc)] at hr
      exact ⟨draw pick, hdraw pick, by rw [hdraw]; omega, hr⟩
  · intro h1 h2 hr
    by_cases hc : lo < 8
    · rw [c17_addSaltInRange_refuses_short h e hi pick draw hc] at hr; cases hr
    · rw [c17_addSaltInRange_ok h e hi draw (Nat.not_lt.1 hc) h1] at hr
      exact ⟨draw pick, by rw [hdraw]; exact h1, by rw [hdraw]; exact h2, by rw [hdraw]; omega, hr⟩

example : ∀ n, ((fun n => List.replicate n (7 : UInt8)) n).length = n := by simp

/-- the range `add_salt` asks for starts at 8 or above and is at least 8 wide:
`Salt::new_in_range_using` has no reason to refuse it -/
theorem c17_saltRange_valid (c5 c25 : Nat) :
    8 ≤ (saltRange c5 c25).1 ∧ (saltRange c5 c25).1 + 8 ≤ (saltRange c5 c25).2 := by
  simp only [saltRange]; omega

/-- the range grows with the size (with the two rounded products) -/
theorem c17_saltRange_mono {a a' b b' : Nat} (ha : a ≤ a') (hb : b ≤ b') :
    (saltRange a b).1 ≤ (saltRange a' b').1 ∧ (saltRange a b).2 ≤ (saltRange a' b').2 := by
  simp only [saltRange]; omega

/-- **`add_salt` is not refused**: the library's `unwrap()` of `new_in_range_using` meets no
error, when the RNG's `pick` is not below the lower end of the range (its contract) -/
theorem c17_addSalt_never_refused (h : Hash) (e : Env) (c5 c25 : Nat) {pick : Nat} (draw : Nat → Bytes)
    (hp : (saltRange c5 c25).1 ≤ pick) :
    addSaltProportional h e c5 c25 pick draw = addSaltInstance h e (draw pick) :=
  c17_addSaltInRange_ok h e _ draw (c17_saltRange_valid c5 c25).1 hp

/-- and the salt it adds has a length inside the range (`c5`, `c25`: 5 % and a quarter of the
size), given an RNG that honours its contract (`hdraw`, `hlo`, `hhi`) -/
theorem c17_addSalt_length {h : Hash} {e r : Env} {c5 c25 pick : Nat} {draw : Nat → Bytes}
    (hdraw : ∀ n, (draw n).length = n)
    (hlo : (saltRange c5 c25).1 ≤ pick) (hhi : pick ≤ (saltRange c5 c25).2)
    (hr : addSaltProportional h e c5 c25 pick draw = .ok r) :
    ∃ s, max 8 c5 ≤ s.length ∧ s.length ≤ max (max 8 c5 + 8) c25 ∧ addSaltInstance h e s = .ok r := by
  obtain ⟨s, h1, h2, _, h4⟩ := (c17_salt_length (h := h) (e := e) (r := r) hdraw).2 hlo hhi hr
  exact ⟨s, h1, h2, h4⟩

/-- with exact rounding (`⌈n/20⌉`, `⌈n/4⌉`) the range for an `n`-byte envelope never ends above
16 bytes or `⌈n/4⌉`, whichever is larger (the library's `f64` rounding may exceed the exact one by
one where the product is not representable: hence `saltRange`'s parameters).  160 = 8 · 20: above
it `⌈n/20⌉` exceeds the floor of 8 bytes and is the lower end. -/
theorem c17_saltRange_exact (n : Nat) :
    (saltRange ((n + 19) / 20) ((n + 3) / 4)).2 ≤ max 16 ((n + 3) / 4) ∧
    (saltRange ((n + 19) / 20) ((n + 3) / 4)).1 ≤ max 8 ((n + 19) / 20) ∧
    (160 < n → (saltRange ((n + 19) / 20) ((n + 3) / 4)).1 = (n + 19) / 20) := by
  simp only [saltRange]; omega
example : saltRange 9 41 = (9, 41) ∧ saltRange 1 3 = (8, 16) := by decide

/-- `add_assertion_salted(p, o, salted)` is `add_assertion_envelope` of one element: the bare
assertion when not salted, and when salted the assertion decorated with exactly one salt
assertion of its own (a node whose subject is the assertion); it never fails -/
theorem c17_addAssertionSalted_element (h : Hash) (e p o : Env) (salt : Option Bytes) :
    addAssertionSalted h e p o salt = addAssertionEnvelope h e (saltedElement h p o salt) ∧
    (∃ r, addAssertionSalted h e p o salt = .ok r) ∧
    saltedElement h p o none = newAssertion h p o ∧
    (∀ s, saltedElement h p o (some s) =
      .node (newAssertion h p o) [saltAssertion h s]
        (h.ofDigests [(newAssertion h p o).digest, (saltAssertion h s).digest])) ∧
    (∀ s, addSaltInstance h (newAssertion h p o) s = .ok (saltedElement h p o (some s))) :=
  ⟨addAssertionSalted_eq h e p o salt,
    ⟨_, (addAssertionSalted_eq h e p o salt).trans (add_eq h e (saltedElement_slotOk h p o salt))⟩,
    rfl, fun _ => rfl, fun s => addSaltInstance_assertion h p o s⟩

/-- **the two copies of the add logic agree**: `add_assertion_envelope_salted(a, false)`, the worker
behind the `*_salted` family, carries its own copy of the duplicate check and of the node
rebuilding; it is `add_assertion_envelope(a)` for every element (non-assertions, which both
refuse, included) and every receiver -/
theorem c17_unsalted_door_is_plain_add (h : Hash) (e a : Env) :
    addAssertionEnvelopeSalted h e a none = addAssertionEnvelope h e a :=
  addAssertionEnvelopeSalted_none h e a

/-- the receiver's subject and other assertions are unchanged; the one element added is
`saltedElement h p o salt` -/
theorem c17_addAssertionSalted_shape {h : Hash} {e p o r : Env} {salt : Option Bytes} (hi : Inv h e)
    (hfresh : ∀ x ∈ e.assertions, x.digest ≠ (saltedElement h p o salt).digest)
    (hr : addAssertionSalted h e p o salt = .ok r) :
    r.subject = e.subject ∧
    (∀ a, a ∈ r.assertions ↔ a ∈ e.assertions ∨ a = saltedElement h p o salt) ∧
    r.assertions.length = e.assertions.length + 1 ∧
    r.assertions.Perm (e.assertions ++ [saltedElement h p o salt]) :=
  add_fresh hfresh (addAssertionSalted_eq h e p o salt ▸ hr)

/-- the unsalted form draws nothing: its result is a function of `(e, p, o)` only, the one
`add_assertion(p, o)` computes -/
theorem c17_unsalted_deterministic (h : Hash) (e p o : Env) :
    addAssertionSalted h e p o none = addAssertionEnvelope h e (newAssertion h p o) ∧
    addAssertionSalted h e p o none = addAssertionUnwrap h e p o := by
  rw [addAssertionUnwrap_eq]
  exact ⟨addAssertionSalted_eq h e p o none, addAssertionSalted_eq h e p o none⟩

/-- the added (possibly salted) assertion is still found by its predicate -/
theorem c17_addAssertionSalted_found {h : Hash} {e p o r : Env} {salt : Option Bytes} (hi : Inv h e)
    (hfresh : ∀ x ∈ e.assertions, x.digest ≠ (saltedElement h p o salt).digest)
    (hr : addAssertionSalted h e p o salt = .ok r) :
    saltedElement h p o salt ∈ assertionsWithPredicate r p := by
  rw [awp_eq_filter, List.mem_filter]
  exact ⟨((c17_addAssertionSalted_shape hi hfresh hr).2.1 _).2 (Or.inr rfl),
    matchesPred_saltedElement h p o salt⟩

/-- and when no other assertion of the receiver has that predicate, the object lookup returns
the object -/
theorem c17_addAssertionSalted_object {h : Hash} {e p o r : Env} {salt : Option Bytes} (hi : Inv h e)
    (hfresh : ∀ x ∈ e.assertions, x.digest ≠ (saltedElement h p o salt).digest)
    (hnone : assertionsWithPredicate e p = [])
    (hr : addAssertionSalted h e p o salt = .ok r) :
    assertionsWithPredicate r p = [saltedElement h p o salt] ∧ objectForPredicate r p = .ok o := by
  have h1 := awp_add_single hfresh hnone (matchesPred_saltedElement h p o salt)
    (addAssertionSalted_eq h e p o salt ▸ hr)
  exact ⟨h1, ofp_single h1 (asObject_saltedElement h p o salt)⟩

example : Inv InvL.toyHash InvL.sNode ∧
    (∀ x ∈ InvL.sNode.assertions, x.digest ≠
      (saltedElement InvL.toyHash (newKnownValue InvL.toyHash 7) (newLeaf InvL.toyHash (.uint 5))
        (some [1,2,3,4,5,6,7,8])).digest) ∧
    assertionsWithPredicate InvL.sNode (newKnownValue InvL.toyHash 7) = [] :=
  ⟨sNode_inv, fun x hx => (sample_salts.2.2.1 x hx).2, sample_salts.2.2.2⟩

/-- two saltings of the same envelope with different salts have different digests, hence so do
their elided forms, if the hash does not collide on the three pairs of images `c1`-`c3`.  That
independently drawn salts differ is a property of the RNG (observed by the oracle, not proved). -/
theorem c17_salt_decorrelates {h : Hash} (hV : ∀ b, (h.H b).Valid) {e r1 r2 : Env} {s1 s2 : Bytes}
    (hi : Inv h e) (hne : s1 ≠ s2)
    (hfresh : ∀ x ∈ e.assertions, x.digest ≠ (saltAssertion h s1).digest)
    (hr1 : addSaltInstance h e s1 = .ok r1) (hr2 : addSaltInstance h e s2 = .ok r2)
    (c1 : CollFree h (saltCbor s1).enc (saltCbor s2).enc)
    (c2 : CollFree h
      (catDigests [(newKnownValue h KV_SALT).digest, (newLeaf h (saltCbor s1)).digest])
      (catDigests [(newKnownValue h KV_SALT).digest, (newLeaf h (saltCbor s2)).digest]))
    (c3 : CollFree h (catDigests (r1.subject.digest :: r1.assertions.map Env.digest))
      (catDigests (r2.subject.digest :: r2.assertions.map Env.digest))) :
    r1.digest ≠ r2.digest ∧ (elide r1).digest ≠ (elide r2).digest := by
  rw [addSaltInstance_eq] at hr1 hr2
  have hsa := saltAssertion_digest_ne hV hne c1 c2
  have := add_digest_ne hV hi (a1 := saltAssertion h s1) (a2 := saltAssertion h s2) (hV _) (hV _)
    hfresh hsa hr1 hr2 c3
  exact ⟨this, by rwa [elide_digest, elide_digest]⟩

example : ∃ r1 r2, (∀ b, (InvL.toyHash.H b).Valid) ∧ Inv InvL.toyHash InvL.sSubj ∧
    ([1,2,3,4,5,6,7,8] : Bytes) ≠ [1,2,3,4,5,6,7,9] ∧
    (∀ x ∈ InvL.sSubj.assertions, x.digest ≠ (saltAssertion InvL.toyHash [1,2,3,4,5,6,7,8]).digest) ∧
    addSaltInstance InvL.toyHash InvL.sSubj [1,2,3,4,5,6,7,8] = .ok r1 ∧
    addSaltInstance InvL.toyHash InvL.sSubj [1,2,3,4,5,6,7,9] = .ok r2 ∧
    CollFree InvL.toyHash (saltCbor [1,2,3,4,5,6,7,8]).enc (saltCbor [1,2,3,4,5,6,7,9]).enc ∧
    CollFree InvL.toyHash
      (catDigests [(newKnownValue InvL.toyHash KV_SALT).digest,
        (newLeaf InvL.toyHash (saltCbor [1,2,3,4,5,6,7,8])).digest])
      (catDigests [(newKnownValue InvL.toyHash KV_SALT).digest,
        (newLeaf InvL.toyHash (saltCbor [1,2,3,4,5,6,7,9])).digest]) ∧
    CollFree InvL.toyHash (catDigests (r1.subject.digest :: r1.assertions.map Env.digest))
      (catDigests (r2.subject.digest :: r2.assertions.map Env.digest)) := by
  have hf : ∀ (s : Bytes), ∀ x ∈ sSubj.assertions, x.digest ≠ (saltAssertion toyHash s).digest :=
    fun _ _ hx => nomatch hx
  obtain ⟨r1, hr1⟩ := c17_addSaltInstance_total toyHash sSubj [1,2,3,4,5,6,7,8]
  obtain ⟨r2, hr2⟩ := c17_addSaltInstance_total toyHash sSubj [1,2,3,4,5,6,7,9]
  obtain ⟨hs1, _, _, hp1, _⟩ := c17_addSaltInstance_shape sSubj_inv (hf _) hr1
  obtain ⟨hs2, _, _, hp2, _⟩ := c17_addSaltInstance_shape sSubj_inv (hf _) hr2
  obtain ⟨⟨h1, h2, _⟩, ⟨h3, _⟩, _⟩ := sample_salts
  refine ⟨r1, r2, toyHash_valid, sSubj_inv, by decide, hf _, hr1, hr2, collFree_of_ne h1,
    collFree_assertion h2, ?_⟩
  rw [hs1, hs2, List.perm_singleton.1 hp1, List.perm_singleton.1 hp2]
  exact collFree_node h3

/-- the same for an assertion added as salted: the two decorated assertions (and their elided
forms, which is what a holder of a redacted copy sees) have different digests, while the
unsalted assertion has one digest only -/
theorem c17_salted_assertion_decorrelates {h : Hash} (hV : ∀ b, (h.H b).Valid) (p o : Env)
    {s1 s2 : Bytes} (hne : s1 ≠ s2)
    (c1 : CollFree h (saltCbor s1).enc (saltCbor s2).enc)
    (c2 : CollFree h
      (catDigests [(newKnownValue h KV_SALT).digest, (newLeaf h (saltCbor s1)).digest])
      (catDigests [(newKnownValue h KV_SALT).digest, (newLeaf h (saltCbor s2)).digest]))
    (c3 : CollFree h
      (catDigests [(newAssertion h p o).digest, (saltAssertion h s1).digest])
      (catDigests [(newAssertion h p o).digest, (saltAssertion h s2).digest])) :
    (saltedElement h p o (some s1)).digest ≠ (saltedElement h p o (some s2)).digest ∧
    (elide (saltedElement h p o (some s1))).digest ≠ (elide (saltedElement h p o (some s2))).digest ∧
    (elide (saltedElement h p o none)).digest = (newAssertion h p o).digest := by
  have := ofDigests_pair_ne (hV _) (hV _) (hV _) c3 (saltAssertion_digest_ne hV hne c1 c2)
  exact ⟨this, by rw [elide_digest, elide_digest]; exact this, elide_digest _⟩

example : (∀ b, (InvL.toyHash.H b).Valid) ∧ ([1,2,3,4,5,6,7,8] : Bytes) ≠ [1,2,3,4,5,6,7,9] ∧
    CollFree InvL.toyHash (saltCbor [1,2,3,4,5,6,7,8]).enc (saltCbor [1,2,3,4,5,6,7,9]).enc ∧
    CollFree InvL.toyHash
      (catDigests [(newKnownValue InvL.toyHash KV_SALT).digest,
        (newLeaf InvL.toyHash (saltCbor [1,2,3,4,5,6,7,8])).digest])
      (catDigests [(newKnownValue InvL.toyHash KV_SALT).digest,
        (newLeaf InvL.toyHash (saltCbor [1,2,3,4,5,6,7,9])).digest]) ∧
    CollFree InvL.toyHash
      (catDigests [(newAssertion InvL.toyHash (newKnownValue InvL.toyHash 7)
          (newLeaf InvL.toyHash (.uint 5))).digest,
        (saltAssertion InvL.toyHash [1,2,3,4,5,6,7,8]).digest])
      (catDigests [(newAssertion InvL.toyHash (newKnownValue InvL.toyHash 7)
          (newLeaf InvL.toyHash (.uint 5))).digest,
        (saltAssertion InvL.toyHash [1,2,3,4,5,6,7,9]).digest]) :=
  ⟨toyHash_valid, by decide, collFree_of_ne sample_salts.1.1, collFree_assertion sample_salts.1.2.1,
    collFree_salted sample_salts.1.2.2⟩

/-- and the envelopes that received the two salted assertions differ in digest as well -/
theorem c17_salted_add_decorrelates {h : Hash} (hV : ∀ b, (h.H b).Valid) {e r1 r2 p o : Env}
    {s1 s2 : Bytes} (hi : Inv h e) (hne : s1 ≠ s2)
    (hfresh : ∀ x ∈ e.assertions, x.digest ≠ (saltedElement h p o (some s1)).digest)
    (hr1 : addAssertionSalted h e p o (some s1) = .ok r1)
    (hr2 : addAssertionSalted h e p o (some s2) = .ok r2)
    (c1 : CollFree h (saltCbor s1).enc (saltCbor s2).enc)
    (c2 : CollFree h
      (catDigests [(newKnownValue h KV_SALT).digest, (newLeaf h (saltCbor s1)).digest])
      (catDigests [(newKnownValue h KV_SALT).digest, (newLeaf h (saltCbor s2)).digest]))
    (c3 : CollFree h
      (catDigests [(newAssertion h p o).digest, (saltAssertion h s1).digest])
      (catDigests [(newAssertion h p o).digest, (saltAssertion h s2).digest]))
    (c4 : CollFree h (catDigests (r1.subject.digest :: r1.assertions.map Env.digest))
      (catDigests (r2.subject.digest :: r2.assertions.map Env.digest))) :
    r1.digest ≠ r2.digest ∧ (elide r1).digest ≠ (elide r2).digest := by
  rw [addAssertionSalted_eq] at hr1 hr2
  have hsa := (c17_salted_assertion_decorrelates hV p o hne c1 c2 c3).1
  have := add_digest_ne hV hi (saltedElement_digest_valid hV p o _) (saltedElement_digest_valid hV p o _) hfresh hsa hr1 hr2 c4
  exact ⟨this, by rwa [elide_digest, elide_digest]⟩

example : ∃ r1 r2, Inv InvL.toyHash InvL.sSubj ∧
    (∀ x ∈ InvL.sSubj.assertions, x.digest ≠
      (saltedElement InvL.toyHash (newKnownValue InvL.toyHash 7) (newLeaf InvL.toyHash (.uint 5))
        (some [1,2,3,4,5,6,7,8])).digest) ∧
    addAssertionSalted InvL.toyHash InvL.sSubj (newKnownValue InvL.toyHash 7)
      (newLeaf InvL.toyHash (.uint 5)) (some [1,2,3,4,5,6,7,8]) = .ok r1 ∧
    addAssertionSalted InvL.toyHash InvL.sSubj (newKnownValue InvL.toyHash 7)
      (newLeaf InvL.toyHash (.uint 5)) (some [1,2,3,4,5,6,7,9]) = .ok r2 ∧
    CollFree InvL.toyHash (catDigests (r1.subject.digest :: r1.assertions.map Env.digest))
      (catDigests (r2.subject.digest :: r2.assertions.map Env.digest)) := by
  have hf : ∀ (s : Option Bytes), ∀ x ∈ sSubj.assertions, x.digest ≠
      (saltedElement toyHash (newKnownValue toyHash 7) (newLeaf toyHash (.uint 5)) s).digest :=
    fun _ _ hx => nomatch hx
  obtain ⟨r1, hr1⟩ := (c17_addAssertionSalted_element InvL.toyHash InvL.sSubj (newKnownValue InvL.toyHash 7)
    (newLeaf InvL.toyHash (.uint 5)) (some [1,2,3,4,5,6,7,8])).2.1
  obtain ⟨r2, hr2⟩ := (c17_addAssertionSalted_element InvL.toyHash InvL.sSubj (newKnownValue InvL.toyHash 7)
    (newLeaf InvL.toyHash (.uint 5)) (some [1,2,3,4,5,6,7,9])).2.1
  obtain ⟨hs1, _, _, hp1⟩ := c17_addAssertionSalted_shape InvL.sSubj_inv (hf _) hr1
  obtain ⟨hs2, _, _, hp2⟩ := c17_addAssertionSalted_shape InvL.sSubj_inv (hf _) hr2
  refine ⟨r1, r2, sSubj_inv, hf _, hr1, hr2, ?_⟩
  rw [hs1, hs2, List.perm_singleton.1 hp1, List.perm_singleton.1 hp2]
  exact collFree_node sample_salts.2.1.2

end EnvVerif
