/-
  Props/C05.lean — serialization round-trips exactly.

  "For every envelope, decoding its CBOR encoding (or its UR string) yields an envelope that is identical
  to it - same case and digest at every position - and that re-encodes to the very same bytes;
  this holds for elided, encrypted, compressed, known-value, wrapped and nested-node
  elements and for every leaf CBOR type."

  Hypotheses.  `Inv h e` and `EncShape e` (Lemmas/CodecSpec.lean: the shape `bc-components` gives
  every encrypted / compressed element — 12-byte nonce, 16-byte tag, non-empty aad; u32 checksum,
  u64 size, data no longer than size), which `encShape_encryptWithDigest` / `encShape_compressedOf`
  (given a 12-byte nonce and 16-byte tags / a 32-bit CRC and a length below 2^64) and the decoder
  (`envOfCbor_sat`) establish.  `Encodable e` (leaves are valid dCBOR, counts fit in 64 bits) makes,
  with `EncShape e`, the tree `Cbor.Valid`.  The only codec fact needed at the byte level, `DecEncLaw`
  (a valid tree decodes from its encoding), is *proved* for the model codec (`Cbor.decEncLaw`), so no
  theorem here carries a codec hypothesis.  (The other half of `CodecLaws` is false for `dcbor` 0.17.1
  and is not used here; see C06.)

  The decoded value is *equal* to the original as a term of `Env`, which carries the case, the cached
  digest and all children at every position: that is "same case and digest at every position"
  (`decode_encode_identical` spells it out on `elements`).
-/
import EnvVerif.Lemmas.CodecLemmas
import EnvVerif.Lemmas.UrLemmas
namespace EnvVerif
open Env

section
variable (h : Hash)

/-- C05 core: the case-directed decoder inverts the case-directed encoder. -/
theorem envOfCbor_cborOf (e : Env) (hi : Inv h e) (hs : EncShape e) :
    envOfCbor h (cborOf e) = .ok e :=
  envOfCbor_cborOf_of h e hi.1 hi.2 hs

example : envOfCbor CodecEx.toyH (cborOf CodecEx.sample) = .ok CodecEx.sample :=
  envOfCbor_cborOf _ _ CodecEx.sample_inv CodecEx.sample_encShape

/- `EncShape` cannot be dropped: `Inv` admits a compressed element whose checksum is not a `u32`,
and that one does not round-trip -/
example : Inv CodecEx.toyH (.compressed ⟨2 ^ 32, 0, []⟩ ⟨5⟩) ∧
    envOfCbor CodecEx.toyH (cborOf (.compressed ⟨2 ^ 32, 0, []⟩ ⟨5⟩)) = .err "dep:OutOfRange" := by
  refine ⟨⟨trivial, by simp [Digest.Valid]⟩, ?_⟩
  simp only [cborOf, envOfCbor_compressed, compMsgCbor, decodeCompressed,
    digestOfCbor_digestCbor (d := ⟨5⟩) (by simp [Digest.Valid])]
  rfl

theorem envOfCborList_cborOfList (as : List Env) (hi : ∀ a ∈ as, Inv h a)
    (hs : ∀ a ∈ as, EncShape a) : envOfCborList h (cborOfList as) = .ok as :=
  envOfCborList_cborOfList_of h fun a ha => envOfCbor_cborOf h a (hi a ha) (hs a ha)

/-- `from_tagged_cbor (tagged_cbor e) = e` -/
theorem envOfTaggedCbor_taggedCborOf (e : Env) (hi : Inv h e) (hs : EncShape e) :
    envOfTaggedCbor h (taggedCborOf e) = .ok e :=
  envOfTaggedCbor_taggedCborOf_of h e hi.1 hi.2 hs

/-- "every leaf CBOR type": no hypothesis at the tree level -/
theorem envOfCbor_cborOf_leaf (c : Cbor) : envOfCbor h (cborOf (newLeaf h c)) = .ok (newLeaf h c) :=
  envOfCbor_cborOf h _ (Inv.newLeaf h c) trivial

theorem eq_of_leftInv {α β : Type} {f : α → β} {g : β → Res α} {a b : α}
    (ha : g (f a) = .ok a) (hb : g (f b) = .ok b) (heq : f a = f b) : a = b := by
  rw [heq, hb] at ha
  exact (Res.ok.inj ha).symm

theorem cborOf_injective (e₁ e₂ : Env) (h₁ : Inv h e₁) (s₁ : EncShape e₁) (h₂ : Inv h e₂)
    (s₂ : EncShape e₂) (heq : cborOf e₁ = cborOf e₂) : e₁ = e₂ :=
  eq_of_leftInv (envOfCbor_cborOf h e₁ h₁ s₁) (envOfCbor_cborOf h e₂ h₂ s₂) heq

/-- C05: `from_tagged_cbor_data (to_cbor_data e) = e` -/
theorem decode_encode (e : Env) (hi : Inv h e) (hs : EncShape e)
    (he : Encodable e) : decode h (encode e) = .ok e :=
  decode_encode_of h e hi.1 hi.2 hs he

/- the sample: a node with wrapped subject, an assertion with known-value predicate and text leaf
object, elided, encrypted and compressed elements -/
example : Inv CodecEx.toyH CodecEx.sample ∧ EncShape CodecEx.sample ∧ Encodable CodecEx.sample :=
  ⟨CodecEx.sample_inv, CodecEx.sample_encShape, CodecEx.sample_encodable⟩

example : decode CodecEx.toyH (encode CodecEx.sample) = .ok CodecEx.sample :=
  decode_encode _ _ CodecEx.sample_inv CodecEx.sample_encShape CodecEx.sample_encodable

theorem decode_encode_identical (e e' : Env) (hi : Inv h e) (hs : EncShape e)
    (he : Encodable e) (hd : decode h (encode e) = .ok e') :
    e' = e ∧ elements e' = elements e ∧ e'.digest = e.digest := by
  rw [decode_encode h e hi hs he] at hd
  cases hd
  exact ⟨rfl, rfl, rfl⟩

/-- "re-encodes to the very same bytes"; the second generation decodes to the same envelope again -/
theorem decode_encode_second_generation (e e' : Env) (hi : Inv h e)
    (hs : EncShape e) (he : Encodable e) (hd : decode h (encode e) = .ok e') :
    encode e' = encode e ∧ decode h (encode e') = .ok e' := by
  obtain ⟨rfl, _, _⟩ := decode_encode_identical h e e' hi hs he hd
  exact ⟨rfl, hd⟩

theorem decode_encode_leaf (c : Cbor) (hc : c.Valid) :
    decode h (encode (newLeaf h c)) = .ok (newLeaf h c) :=
  decode_encode h _ (Inv.newLeaf h c) trivial hc

theorem encode_injective (e₁ e₂ : Env) (h₁ : Inv h e₁) (s₁ : EncShape e₁)
    (v₁ : Encodable e₁) (h₂ : Inv h e₂) (s₂ : EncShape e₂) (v₂ : Encodable e₂)
    (heq : encode e₁ = encode e₂) : e₁ = e₂ :=
  eq_of_leftInv (decode_encode h e₁ h₁ s₁ v₁) (decode_encode h e₂ h₂ s₂ v₂) heq

/-! ### the UR text form ("or its UR string") -/

/-- C05, UR clause: `Envelope::from_ur_string (e.ur_string()) = e`.  The bytewords table, the CRC-32
and the `ur:type/` framing are the concrete ones (Model/Ur.lean); nothing is assumed about them. -/
theorem envOfUrString_urStringOf (e : Env) (hi : Inv h e) (hs : EncShape e) (he : Encodable e) :
    envOfUrString h (urStringOf e) = .ok e := by
  simp only [envOfUrString, urStringOf, Ur.urParse_urString envelopeType _ (by decide), bne_self_eq_false,
    Bool.false_eq_true, if_false, Cbor.decEncLaw _ (cborOf_valid e he hs)]
  exact envOfCbor_cborOf h e hi hs

example : envOfUrString CodecEx.toyH (urStringOf CodecEx.sample) = .ok CodecEx.sample :=
  envOfUrString_urStringOf _ _ CodecEx.sample_inv CodecEx.sample_encShape CodecEx.sample_encodable

/-- the upper-case form (`UR::qr_string`, what a QR code carries): `from_ur_string` lower-cases its
input first -/
theorem envOfUrString_upper (e : Env) (hi : Inv h e) (hs : EncShape e) (he : Encodable e) :
    envOfUrString h ((urStringOf e).map Ur.upperAscii) = .ok e := by
  simp only [envOfUrString, Ur.urParse_upper]
  exact envOfUrString_urStringOf h e hi hs he

theorem urStringOf_injective (e₁ e₂ : Env) (h₁ : Inv h e₁) (s₁ : EncShape e₁) (c₁ : Encodable e₁)
    (h₂ : Inv h e₂) (s₂ : EncShape e₂) (c₂ : Encodable e₂) (heq : urStringOf e₁ = urStringOf e₂) :
    e₁ = e₂ :=
  eq_of_leftInv (envOfUrString_urStringOf h e₁ h₁ s₁ c₁) (envOfUrString_urStringOf h e₂ h₂ s₂ c₂) heq

theorem envOfUrString_wrong_type (ty : Ur.Text) (data : Bytes) (hty : ty.all Ur.isTypeChar = true)
    (hne : ty ≠ envelopeType) : envOfUrString h (Ur.urString ty data) = .err "dep:ur-type" := by
  simp only [envOfUrString, Ur.urParse_urString ty data hty, bne_iff_ne.2 hne, if_true]

/-- whatever string `from_ur_string` turns into an envelope is, after lower-casing, the very string
`UR::string` writes for the type `envelope` and the bytes that were decoded -/
theorem ur_reader_accepts_only_canonical (s : Ur.Text) (e : Env) (hr : envOfUrString h s = .ok e) :
    ∃ data c, s.map Ur.lowerAscii = Ur.urString envelopeType data ∧ Cbor.dec data = .ok c ∧ envOfCbor h c = .ok e := by
  revert hr
  fun_cases envOfUrString h s
  case case3 ty data hp hty c hd =>
    obtain rfl : ty = envelopeType := by simpa using hty
    exact fun hr => ⟨data, c, (Ur.urParse_eq_some.1 hp).2.2, hd, hr⟩
  all_goals nofun

end
end EnvVerif
