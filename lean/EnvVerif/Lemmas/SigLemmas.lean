/-
  Lemmas/SigLemmas.lean — helper lemmas for C09 (signatures).  The verdict of
  `has_signature_from` is a function of the subject digest and of the set of 'signed' objects
  (`validSig`, `validSig_mono`); the rest says what an operation does to that set and what
  `sigCandidate` makes of the objects `add_signature_opt` builds.  `namespace Toy`: C09's samples.
-/
import EnvVerif.Lemmas.SigLaws
import EnvVerif.Lemmas.WalkLemmas
import EnvVerif.Lemmas.InvLemmas
import EnvVerif.Lemmas.ElideLemmas
namespace EnvVerif

namespace SigL
open Env

variable (h : Hash) (V : SigScheme)

theorem objectsForPredicate_signed (e : Env) :
    objectsForPredicate e (newKnownValue h KV_SIGNED) = .ok (signedObjects h e) :=
  AW.objectsForPredicate_eq e _

theorem mem_signedObjects {e o : Env} :
    o ∈ signedObjects h e ↔
      ∃ a ∈ e.assertions, ∃ q d, a.subject = .assertion q o d ∧ q.digest = (signedKV h).digest :=
  AW.mem_objects

theorem signedObjects_perm {e e' : Env} (hp : e.assertions.Perm e'.assertions) :
    (signedObjects h e).Perm (signedObjects h e') := by
  unfold signedObjects
  rw [AW.awp_eq_filter, AW.awp_eq_filter]
  exact (hp.filter _).filterMap _

theorem signedObjects_of_assertions_eq {e e' : Env} (hp : e.assertions = e'.assertions) :
    signedObjects h e = signedObjects h e' := by
  unfold signedObjects
  rw [AW.awp_eq_filter, AW.awp_eq_filter, hp]

theorem hasSigMeta_eq (key : Nat) (e : Env) :
    hasSignatureFromReturningMetadata h V key e =
      .ok ((signedObjects h e).findSome? (sigCandidate h V key e)) := by
  unfold hasSignatureFromReturningMetadata
  rw [objectsForPredicate_signed]

def validSig (key : Nat) (e : Env) : Bool :=
  ((signedObjects h e).findSome? (sigCandidate h V key e)).isSome

theorem hasSig_eq (key : Nat) (e : Env) : hasSignatureFrom h V key e = .ok (validSig h V key e) := by
  unfold hasSignatureFrom validSig
  rw [hasSigMeta_eq]

theorem validSig_iff (key : Nat) (e : Env) :
    validSig h V key e = true ↔ ∃ so ∈ signedObjects h e, (sigCandidate h V key e so).isSome = true := by
  unfold validSig
  exact List.findSome?_isSome_iff

theorem sigCandidate_congr (key : Nat) {e e' : Env} (hd : e.subject.digest = e'.subject.digest)
    (so : Env) : sigCandidate h V key e so = sigCandidate h V key e' so := by
  unfold sigCandidate isSignatureFromKey
  rw [hd]

theorem validSig_mono (key : Nat) {e e' : Env} (hd : e'.subject.digest = e.subject.digest)
    (hsub : ∀ so ∈ signedObjects h e, (sigCandidate h V key e so).isSome = true →
      so ∈ signedObjects h e') (hv : validSig h V key e = true) : validSig h V key e' = true := by
  obtain ⟨so, hso, hc⟩ := (validSig_iff h V key e).1 hv
  exact (validSig_iff h V key e').2 ⟨so, hsub so hso hc, by rwa [sigCandidate_congr h V key hd so]⟩

theorem hasSig_mono (key : Nat) {e e' : Env} (hd : e'.subject.digest = e.subject.digest)
    (hsub : ∀ so ∈ signedObjects h e, (sigCandidate h V key e so).isSome = true →
      so ∈ signedObjects h e') (hv : hasSignatureFrom h V key e = .ok true) :
    hasSignatureFrom h V key e' = .ok true := by
  rw [hasSig_eq] at hv ⊢
  rw [validSig_mono h V key hd hsub (Res.ok.inj hv)]

theorem hasSig_congr (key : Nat) {e e' : Env} (hd : e'.subject.digest = e.subject.digest)
    (hiff : ∀ so, so ∈ signedObjects h e' ↔ so ∈ signedObjects h e) :
    hasSignatureFrom h V key e' = hasSignatureFrom h V key e := by
  rw [hasSig_eq, hasSig_eq, Bool.eq_iff_iff.2
    ⟨validSig_mono h V key hd.symm fun so hso _ => (hiff so).1 hso,
     validSig_mono h V key hd fun so hso _ => (hiff so).2 hso⟩]

theorem extractSignature_tagged (x : Env) (s : Cbor) (hx : extractSignature x = some s) :
    ∃ y, s = .tagged TAG_SIGNATURE y := by
  fun_induction extractSignature x with
  | case1 sub _ _ ih => exact ih hx
  | case2 t y _ ht => cases hx; exact ⟨y, by rw [beq_iff_eq.1 ht]⟩
  | case3 => cases hx
  | case4 => cases hx

theorem extractSignature_subject (e : Env) : extractSignature e.subject = extractSignature e := by
  cases e <;> rfl

/-- `ReadableSigBy` as `sigCandidate` computes it -/
def outerOk (key : Nat) (d : Digest) (o : Env) : Bool :=
  match extractSignature o with
  | some s => V.verify key s d
  | none => false

theorem outerOk_iff (key : Nat) (d : Digest) (o : Env) :
    outerOk V key d o = true ↔ ReadableSigBy V key o d := by
  unfold outerOk ReadableSigBy
  cases hx : extractSignature o with
  | none => simp
  | some s => simp

theorem sigCandidate_plain (key : Nat) (e so m : Env) (hw : so.subject.isWrapped = false) :
    sigCandidate h V key e so = some m ↔
      ∃ s, extractSignature so = some s ∧ V.verify key s e.subject.digest = true ∧ m = newLeaf h s := by
  unfold sigCandidate isSignatureFromKey
  simp only [hw, Bool.false_eq_true, if_false]
  cases hx : extractSignature so with
  | none => simp
  | some s =>
    by_cases hv : V.verify key s e.subject.digest = true
    · simp only [hv, if_true, Option.some.injEq, true_and, exists_eq_left']
      exact ⟨fun hm => hm.symm, fun hm => hm.symm⟩
    · simp [hv]

theorem sigCandidate_plain_readable (key : Nat) (e so m : Env) (hw : so.subject.isWrapped = false)
    (hc : sigCandidate h V key e so = some m) :
    ReadableSigBy V key so e.subject.digest ∧ m.assertions = [] ∧
      ReadableSigBy V key m e.subject.digest := by
  obtain ⟨s, hs, hv, rfl⟩ := (sigCandidate_plain h V key e so m hw).1 hc
  obtain ⟨y, rfl⟩ := extractSignature_tagged so s hs
  refine ⟨⟨_, hs, hv⟩, rfl, _, ?_, hv⟩
  simp [extractSignature, newLeaf]

theorem sigCandidate_plain_isSome (key : Nat) (e so : Env) (hw : so.subject.isWrapped = false) :
    (sigCandidate h V key e so).isSome = true ↔ ReadableSigBy V key so e.subject.digest := by
  constructor
  · intro hs
    obtain ⟨m, hm⟩ := Option.isSome_iff_exists.1 hs
    exact (sigCandidate_plain_readable h V key e so m hw hm).1
  · rintro ⟨s, hs, hv⟩
    rw [(sigCandidate_plain h V key e so (newLeaf h s) hw).2 ⟨s, hs, hv, rfl⟩]
    rfl

theorem sigCandidate_wrapper_eq (key : Nat) (e so inner : Env) (d : Digest)
    (hs : so.subject = .wrapped inner d) :
    sigCandidate h V key e so =
      if (signedObjects h so).any (outerOk V key d) && outerOk V key e.subject.digest inner
      then some inner else none := by
  unfold sigCandidate
  simp only [hs, Env.isWrapped, if_true]
  rw [objectsForPredicate_signed]
  show (if (signedObjects h so).any (outerOk V key d) = true then
    (match extractSignature inner with
      | some s => if V.verify key s e.subject.digest = true then some inner else none
      | none => none) else none) = _
  rw [outerOk]
  cases extractSignature inner with
  | none => simp
  | some s => cases (signedObjects h so).any _ <;> simp

theorem sigCandidate_wrapper (key : Nat) (e so inner m : Env) (d : Digest)
    (hs : so.subject = .wrapped inner d) :
    sigCandidate h V key e so = some m ↔
      m = inner ∧ (∃ o ∈ signedObjects h so, ReadableSigBy V key o d) ∧
        ReadableSigBy V key inner e.subject.digest := by
  simp only [sigCandidate_wrapper_eq h V key e so inner d hs, Option.ite_none_right_eq_some,
    Bool.and_eq_true, List.any_eq_true, outerOk_iff, Option.some.injEq]
  exact ⟨fun ⟨hx, hm⟩ => ⟨hm.symm, hx⟩, fun ⟨hm, hx⟩ => ⟨hx, hm.symm⟩⟩

theorem signedObjects_add {e o r : Env} (hr : addAssertionUnwrap h e (signedKV h) o = .ok r) :
    r.subject = e.subject ∧
      (∀ x ∈ signedObjects h r, x ∈ signedObjects h e ∨ x = o) ∧
      (∀ x ∈ signedObjects h e, x ∈ signedObjects h r) ∧
      (NotShadowed h e o → o ∈ signedObjects h r) := by
  rw [AW.addAssertionUnwrap_eq] at hr
  obtain ⟨_, hs, has⟩ := AW.add_ok hr
  simp only [mem_signedObjects, has, AW.mem_normAdd_iff]
  refine ⟨hs, ?_, fun x ⟨a, ha, hx⟩ => ⟨a, Or.inl ha, hx⟩,
    fun hns => ⟨_, AW.mem_normAdd_iff.1 (AW.mem_normAdd_self hns), signedKV h, _, rfl, rfl⟩⟩
  rintro x ⟨a, ha | ⟨rfl, _⟩, q, d, hsub, hq⟩
  · exact Or.inl ⟨a, ha, q, d, hsub, hq⟩
  · cases hsub; exact Or.inr rfl

theorem signedObjects_addAny {e a r : Env} (hr : addAssertionEnvelope h e a = .ok r) :
    r.subject = e.subject ∧
      (∀ x ∈ signedObjects h e, x ∈ signedObjects h r) ∧
      (AW.matchesPred a (signedKV h) = false → ∀ x ∈ signedObjects h r, x ∈ signedObjects h e) := by
  obtain ⟨_, hs, has⟩ := AW.add_ok hr
  simp only [mem_signedObjects, has, AW.mem_normAdd_iff]
  refine ⟨hs, fun x ⟨b, hb, hx⟩ => ⟨b, Or.inl hb, hx⟩, ?_⟩
  rintro hnm x ⟨b, hb | ⟨rfl, _⟩, q, d, hsub, hq⟩
  · exact ⟨b, hb, q, d, hsub, hq⟩
  · rw [(AW.matchesPred_iff b _).2 ⟨q, x, d, hsub, hq⟩] at hnm; cases hnm

/-- the metadata fold is `add_assertion_envelopes` behind an `unwrap()` -/
theorem metaEnvelope_eq_addAll (sig : Cbor) (metas : List Env) :
    metaEnvelope h sig metas =
      if metas.all slotOk then addAll h (newLeaf h sig) metas
      else .panic "signature_impl.rs:add_signature_opt:unwrap" :=
  AW.unwrapFold_eq h _ metas _

theorem metaEnvelope_ok {sig : Cbor} {metas : List Env} {m : Env}
    (hm : metaEnvelope h sig metas = .ok m) :
    m.subject = newLeaf h sig ∧ m.assertions = metas.foldl AW.normAdd [] := by
  rw [metaEnvelope_eq_addAll] at hm
  split at hm
  · exact (AW.addAll_ok metas hm).2
  · cases hm

def metaStep (x a : Env) : Res Env :=
  match addAssertionEnvelope h x a with
  | .ok y => .ok y
  | .err _ => .panic "signature_impl.rs:add_signature_opt:unwrap"
  | .panic p => .panic p

/-- the fold of `metaEnvelope` from any start: `metaEnvelope h sig` unfolds to
`metaFold h (.ok (newLeaf h sig))` -/
def metaFold (init : Res Env) (metas : List Env) : Res Env :=
  metas.foldl (fun acc a => acc.bind fun x => metaStep h x a) init

theorem metaFold_isOk : ∀ (metas : List Env) (x : Env), (∀ a ∈ metas, a.slotOk = true) →
    ∃ m, metaFold h (.ok x) metas = .ok m := fun metas x hsl => by
  rw [show metaFold h (.ok x) metas = _ from AW.unwrapFold_eq h _ metas x,
    if_pos (List.all_eq_true.2 hsl)]
  exact AW.addAll_isOk h metas x hsl

theorem metaEnvelope_isOk (sig : Cbor) {metas : List Env} (hsl : ∀ a ∈ metas, a.slotOk = true) :
    ∃ m, metaEnvelope h sig metas = .ok m :=
  metaFold_isOk h metas _ hsl

theorem addSignature_nil (e : Env) (sig : Cbor) (outer : Env → Cbor) :
    addSignature h e sig [] outer = addAssertionUnwrap h e (signedKV h) (newLeaf h sig) := rfl

theorem addWrapperSig (m : Env) (outer : Env → Cbor) :
    addAssertionUnwrap h (wrap h m) (signedKV h) (newLeaf h (outer (wrap h m))) =
      .ok (signedWrapper h m outer) := by
  rw [AW.addAssertionUnwrap_eq]
  rfl

theorem addSignature_cons (e : Env) (sig : Cbor) (a : Env) (metas : List Env) (outer : Env → Cbor) :
    addSignature h e sig (a :: metas) outer =
      (metaEnvelope h sig (a :: metas)).bind fun m =>
        addAssertionUnwrap h e (signedKV h) (signedWrapper h m outer) := by
  unfold addSignature
  simp only [List.isEmpty_cons, Bool.false_eq_true, if_false]
  rfl

/-- a successful `addSignature` is `add_assertion('signed', o)` for the object it built: the
signature leaf, or the signed wrapper of the metadata envelope -/
theorem addSignature_ok {e r : Env} {sig : Cbor} {metas : List Env} {outer : Env → Cbor}
    (hr : addSignature h e sig metas outer = .ok r) :
    ∃ o, addAssertionUnwrap h e (signedKV h) o = .ok r ∧
      ((metas = [] ∧ o = newLeaf h sig) ∨
        (metas ≠ [] ∧ ∃ m, metaEnvelope h sig metas = .ok m ∧ o = signedWrapper h m outer)) := by
  cases metas with
  | nil => exact ⟨_, hr, Or.inl ⟨rfl, rfl⟩⟩
  | cons a l =>
    rw [addSignature_cons] at hr
    obtain ⟨m, hm, hr'⟩ := Res.bind_eq_ok.1 hr
    exact ⟨_, hr', Or.inr ⟨by simp, m, hm, rfl⟩⟩

theorem signedWrapper_subject (m : Env) (outer : Env → Cbor) :
    (signedWrapper h m outer).subject = .wrapped m (h.ofDigests [m.digest]) := rfl

theorem signedWrapper_inv {m : Env} (hi : Inv h m) (outer : Env → Cbor) :
    Inv h (signedWrapper h m outer) := by
  rw [signedWrapper, mkNode, AW.sortByDigest_singleton]
  exact AW.inv_single hi.newWrapped
    (Inv.newAssertion (Inv.newKnownValue h KV_SIGNED) (Inv.newLeaf h _)) rfl

theorem signedWrapper_signedObjects (m : Env) (outer : Env → Cbor) (o : Env) :
    o ∈ signedObjects h (signedWrapper h m outer) ↔ o = newLeaf h (outer (wrap h m)) := by
  rw [mem_signedObjects, signedWrapper, mkNode, AW.sortByDigest_singleton]
  constructor
  · rintro ⟨a, ha, q, d, hsub, _⟩
    cases List.mem_singleton.1 ha
    exact (Env.assertion.inj hsub).2.1.symm
  · rintro rfl
    exact ⟨_, List.mem_singleton.2 rfl, signedKV h, _, rfl, rfl⟩

variable {V} in
theorem extractSignature_newLeaf_sign {S : Signer} (L : SigLaws V S) (k : Nat) (d : Digest) :
    extractSignature (newLeaf h (S.sign k d)) = some (S.sign k d) := by
  obtain ⟨x, hx⟩ := L.tagged k d
  rw [hx]
  simp [newLeaf, extractSignature]

theorem sigCandidate_signedWrapper (key : Nat) (e m x : Env) (outer : Env → Cbor) :
    sigCandidate h V key e (signedWrapper h m outer) = some x ↔
      x = m ∧ ReadableSigBy V key (newLeaf h (outer (wrap h m))) (wrap h m).digest ∧
        ReadableSigBy V key m e.subject.digest := by
  rw [sigCandidate_wrapper h V key e _ m x _ (signedWrapper_subject h m outer)]
  simp only [signedWrapper_signedObjects, exists_eq_left]
  rfl

variable {V} in
theorem readable_sign_iff {S : Signer} (L : SigLaws V S) (key k : Nat) (d msg : Digest) :
    ReadableSigBy V key (newLeaf h (S.sign k d)) msg ↔ key = k ∧ msg = d := by
  unfold ReadableSigBy
  rw [extractSignature_newLeaf_sign h L]
  constructor
  · rintro ⟨s, hs, hv⟩; cases hs; exact L.sep _ _ _ _ hv
  · rintro ⟨rfl, rfl⟩; exact ⟨_, rfl, L.correct _ _⟩

variable {V} in
theorem readable_meta_iff {S : Signer} (L : SigLaws V S) {k : Nat} {d : Digest} {metas : List Env}
    {m : Env} (hm : metaEnvelope h (S.sign k d) metas = .ok m) (key : Nat) (msg : Digest) :
    ReadableSigBy V key m msg ↔ key = k ∧ msg = d := by
  rw [← readable_sign_iff h L]
  unfold ReadableSigBy
  rw [← extractSignature_subject m, (metaEnvelope_ok h hm).1]

variable {V} in
/-- what the signer `k` made over the digest `dg`, plain or with metadata, is accepted only for
the key `k` and a subject with the digest `dg` -/
theorem sigCandidate_made {S : Signer} (L : SigLaws V S) {key k : Nat} {dg : Digest} {e o x : Env}
    (ho : o = newLeaf h (S.sign k dg) ∨
      ∃ metas m outer, metaEnvelope h (S.sign k dg) metas = .ok m ∧ o = signedWrapper h m outer)
    (hc : sigCandidate h V key e o = some x) : key = k ∧ e.subject.digest = dg := by
  rcases ho with rfl | ⟨metas, m, outer, hm, rfl⟩
  · exact (readable_sign_iff h L _ _ _ _).1 (sigCandidate_plain_readable h V key e _ x rfl hc).1
  · exact (readable_meta_iff h L hm _ _).1 ((sigCandidate_signedWrapper h V key e m x outer).1 hc).2.2

theorem validCount_cons (valid : Nat → Bool) (k : Nat) (ks : List Nat) :
    validCount valid (k :: ks) = validCount valid ks + (if valid k = true then 1 else 0) := by
  simp [validCount, List.countP_cons]

theorem thresholdLoop_spec (e : Env) (t : Nat) (valid : Nat → Bool) :
    ∀ (keys : List Nat) (count : Nat), (∀ k ∈ keys, hasSignatureFrom h V k e = .ok (valid k)) →
      thresholdLoop h V e t keys count =
        .ok (decide (1 ≤ validCount valid keys ∧ t ≤ count + validCount valid keys))
  | [], count, _ => by simp [thresholdLoop, validCount]
  | k :: ks, count, hv => by
    have ih := fun c => thresholdLoop_spec e t valid ks c (fun k' hk' => hv k' (by simp [hk']))
    have hk := hv k (by simp)
    unfold thresholdLoop
    rw [hk, validCount_cons]
    cases hvk : valid k with
    | true =>
      simp only [if_true]
      by_cases ht : count + 1 ≥ t
      · simp only [ht, if_true, Res.ok.injEq]
        symm; rw [decide_eq_true_eq]; omega
      · simp only [ht, if_false, ih, Res.ok.injEq]
        generalize validCount valid ks = n
        rw [decide_eq_decide]; omega
    | false =>
      simp only [Bool.false_eq_true, if_false, Nat.add_zero]
      rw [ih]

/-- `has_signatures_from_threshold` in closed form -/
theorem threshold_eq (e : Env) (keys : List Nat) (t : Option Nat) (valid : Nat → Bool)
    (hv : ∀ k ∈ keys, hasSignatureFrom h V k e = .ok (valid k)) :
    hasSignaturesFromThreshold h V keys t e =
      .ok (decide (1 ≤ validCount valid keys ∧ t.getD keys.length ≤ validCount valid keys)) := by
  rw [hasSignaturesFromThreshold, thresholdLoop_spec h V e _ valid keys 0 hv, Nat.zero_add]

/-- the shadowed signature: subject `s` with one elided assertion element whose digest is that
of `'signed': sig` -/
def shadowed (s : Env) (sig : Cbor) : Env :=
  .node s [.elided (sigAssertion h (newLeaf h sig)).digest]
    (h.ofDigests [s.digest, (sigAssertion h (newLeaf h sig)).digest])

theorem shadowed_inv {s : Env} (sig : Cbor) (hs : Inv h s)
    (hv : (sigAssertion h (newLeaf h sig)).digest.Valid) : Inv h (shadowed h s sig) :=
  AW.inv_single hs ⟨trivial, hv⟩ rfl

theorem shadowed_addSignature (s : Env) (sig : Cbor) (outer : Env → Cbor) :
    addSignature h (shadowed h s sig) sig [] outer = .ok (shadowed h s sig) := by
  rw [addSignature_nil, AW.addAssertionUnwrap_eq]
  exact AW.add_eq_of_present h _ rfl ⟨_, List.mem_singleton.2 rfl, rfl⟩

theorem shadowed_signedObjects (s : Env) (sig : Cbor) : signedObjects h (shadowed h s sig) = [] := by
  rfl

namespace Toy

def subj : Env := newLeaf hash (.text [0x62])
def sig1 : Cbor := signer.sign 1 subj.digest
/-- `'signed': Signature` -/
def sa1 : Env := sigAssertion hash (newLeaf hash sig1)
def signed1 : Env := .node subj [sa1] (hash.ofDigests [subj.digest, sa1.digest])
/-- a metadata assertion `'note': "x"` -/
def note : Env := newAssertion hash (newKnownValue hash KV_NOTE) (newLeaf hash (.text [0x78]))

theorem signed1_eq (outer : Env → Cbor) : addSignature hash subj sig1 [] outer = .ok signed1 :=
  (addSignature_nil hash subj sig1 outer).trans (AW.addUnwrap_bare hash _ _ rfl)

theorem signed1_verifies : hasSignatureFrom hash scheme 1 signed1 = .ok true := by decide +kernel

theorem signed1_inv : Inv hash signed1 :=
  AW.inv_single (Inv.newLeaf _ _)
    (Inv.newAssertion (Inv.newKnownValue _ KV_SIGNED) (Inv.newLeaf _ sig1)) rfl

end Toy

end SigL
end EnvVerif
