/-
  Lemmas/SskrLemmas.lean — helper lemmas for C11 (SSKR): closed forms of the SSKR functions
  of `Model/Recipient.lean`; `namespace Ex`, the sample split of C11.
-/
import EnvVerif.Lemmas.RecipientLemmas
namespace EnvVerif
namespace RecL
open Env

def shareKV (h : Hash) : Env := newKnownValue h KV_SSKR_SHARE

def shareAssertion (h : Hash) (share : Cbor) : Env := newAssertion h (shareKV h) (newLeaf h share)

section
variable (h : Hash)

/-- the envelope `add_sskr_share` makes -/
def shareEnv (e : Env) (sh : Cbor) : Env :=
  AW.rebuild h e.subject (AW.normAdd e.assertions (shareAssertion h sh))

theorem addSskrShare_of_inv {e : Env} (hi : Inv h e) (sh : Cbor) :
    addSskrShare h e sh = .ok (shareEnv h e sh) :=
  (AW.addAssertionUnwrap_eq h e _ _).trans (AW.add_of_inv hi rfl)

theorem sskrSplitGroup_of_inv {e : Env} (hi : Inv h e) : ∀ (sub : List Cbor),
    sskrSplitGroup h e sub = .ok (sub.map (shareEnv h e))
  | [] => rfl
  | s :: sub => by
    unfold sskrSplitGroup
    rw [addSskrShare_of_inv h hi, sskrSplitGroup_of_inv hi sub]
    rfl

theorem sskrSplit_of_inv {e : Env} (hi : Inv h e) : ∀ (groups : List (List Cbor)),
    sskrSplit h e groups = .ok (groups.map fun g => g.map (shareEnv h e))
  | [] => rfl
  | g :: gs => by
    unfold sskrSplit
    rw [sskrSplitGroup_of_inv h hi g, sskrSplit_of_inv hi gs]
    rfl

theorem shareEnv_subject (e : Env) (sh : Cbor) :
    (shareEnv h e sh).subject = e.subject :=
  AW.rebuild_subject h (Or.inr (AW.normAdd_ne_nil _ _))

theorem shareEnv_assertions (e : Env) (sh : Cbor) :
    (shareEnv h e sh).assertions = AW.normAdd e.assertions (shareAssertion h sh) :=
  AW.rebuild_assertions h (Or.inr (AW.normAdd_ne_nil _ _))

theorem shareEnv_inv {e : Env} (hi : Inv h e) (sh : Cbor) : Inv h (shareEnv h e sh) :=
  AW.inv_rebuild_add hi hi.subject (l := [shareAssertion h sh]) fun a ha => by
    cases List.mem_singleton.1 ha
    exact ⟨Inv.newAssertion (Inv.newKnownValue h _) (Inv.newLeaf h sh), rfl⟩

theorem awp_shareEnv {e : Env} {sh : Cbor} (hi : Inv h e)
    (hnone : assertionsWithPredicate e (shareKV h) = [])
    (hfresh : ∀ y ∈ e.assertions, y.digest ≠ (shareAssertion h sh).digest) :
    assertionsWithPredicate (shareEnv h e sh) (shareKV h) = [shareAssertion h sh] :=
  AW.awp_add_single hfresh hnone ((AW.matchesPred_iff _ _).2 ⟨_, _, _, rfl, rfl⟩) (AW.add_of_inv hi rfl)

/-- what `SskrLaws.shape` says of each share of a split -/
def ShareOk (sh : Cbor) : Prop := ∃ b, sh = .tagged TAG_SSKR_SHARE (.bytes b) ∧ 5 ≤ b.length

theorem sharesLoop_single {sh : Cbor} (hs : ShareOk sh) :
    sharesLoop [shareAssertion h sh] = .ok [sh] := by
  obtain ⟨b, rfl, hb⟩ := hs
  have hlt : ¬ b.length < 5 := by omega
  simp [sharesLoop, shareAssertion, newAssertion, newLeaf, Env.subject, asObject, extractShare,
    shareTooShort, shareBytes?, hlt]

theorem allShares_shareEnvs {e : Env} (hi : Inv h e)
    (hnone : assertionsWithPredicate e (shareKV h) = []) :
    ∀ (sub : List Cbor), (∀ s ∈ sub, ShareOk s) →
      (∀ s ∈ sub, ∀ y ∈ e.assertions, y.digest ≠ (shareAssertion h s).digest) →
      allShares h (sub.map (shareEnv h e)) = .ok sub
  | [], _, _ => rfl
  | s :: sub, hok, hfresh => by
    have ih := allShares_shareEnvs hi hnone sub (fun x hx => hok x (List.mem_cons_of_mem _ hx))
      (fun x hx => hfresh x (List.mem_cons_of_mem _ hx))
    simp only [List.map_cons, allShares]
    rw [show newKnownValue h KV_SSKR_SHARE = shareKV h from rfl,
      awp_shareEnv h hi hnone (hfresh s List.mem_cons_self),
      sharesLoop_single h (hok s List.mem_cons_self), ih]
    rfl

theorem sharesLoop_ne_panic : ∀ (l : List Env), (∀ a ∈ l, ∃ o, asObject a.subject = some o) →
    ∀ p, sharesLoop l ≠ .panic p
  | [], _, p => by simp [sharesLoop]
  | a :: l, hl, p => by
    have ih := sharesLoop_ne_panic l (fun b hb => hl b (List.mem_cons_of_mem _ hb))
    obtain ⟨o, ho⟩ := hl a List.mem_cons_self
    unfold sharesLoop
    simp only [ho]
    cases hx : extractShare o with
    | none => nofun
    | some sh =>
      simp only
      split
      · nofun
      · cases hr : sharesLoop l with
        | panic x => exact absurd hr (ih x)
        | _ => nofun

/-- `sskr_shares_in` never panics: `as_object().unwrap()` is applied to assertions only, and
the code refuses a share too short for `identifier()` -/
theorem allShares_ne_panic : ∀ (envs : List Env) (p : String), allShares h envs ≠ .panic p
  | [], p => by simp [allShares]
  | e :: es, p => by
    have ih := allShares_ne_panic es
    unfold allShares
    cases h1 : sharesLoop (assertionsWithPredicate e (newKnownValue h KV_SSKR_SHARE)) with
    | ok l =>
      simp only
      cases h2 : allShares h es with
      | panic x => exact absurd h2 (ih x)
      | _ => nofun
    | err x => nofun
    | panic x => exact absurd h1 (sharesLoop_ne_panic _ (fun _ ha => AW.awp_asObject ha) x)

end

theorem lookup_insertShare (S : Sskr) (s : Cbor) (i : Nat) : ∀ (acc : List (Nat × List Cbor)),
    (insertShare S s acc).lookup i =
      if i = S.identifier s then some ((acc.lookup i).getD [] ++ [s]) else acc.lookup i
  | [] => by
    simp only [insertShare, List.lookup_cons, List.lookup_nil, Option.getD_none, List.nil_append]
    split <;> simp_all
  | (j, g) :: rest => by
    unfold insertShare
    split
    · rename_i hj
      cases beq_iff_eq.1 hj
      simp only [List.lookup_cons]
      split <;> simp_all
    · simp only [List.lookup_cons, lookup_insertShare S s i rest]
      split <;> simp_all

theorem keys_insertShare (S : Sskr) (s : Cbor) : ∀ (acc : List (Nat × List Cbor)),
    (insertShare S s acc).map Prod.fst =
      if S.identifier s ∈ acc.map Prod.fst then acc.map Prod.fst
      else acc.map Prod.fst ++ [S.identifier s]
  | [] => by simp [insertShare]
  | (j, g) :: rest => by
    unfold insertShare
    split
    · rename_i hj
      simp [beq_iff_eq.1 hj]
    · rename_i hj
      have hj' : ¬ S.identifier s = j := fun hh => hj (by simp [hh])
      simp only [List.map_cons, keys_insertShare S s rest, List.mem_cons, hj', false_or]
      split <;> rfl

theorem keys_groupShares_nodup (S : Sskr) : ∀ (l : List Cbor) (acc : List (Nat × List Cbor)),
    (acc.map Prod.fst).Nodup →
      ((l.foldl (fun acc s => insertShare S s acc) acc).map Prod.fst).Nodup
  | [], _, hn => hn
  | s :: l, acc, hn => by
    refine keys_groupShares_nodup S l _ ?_
    rw [keys_insertShare]
    split
    · exact hn
    · rename_i hnew
      exact List.nodup_append.2 ⟨hn, by simp, fun a ha b hb => by cases List.mem_singleton.1 hb; exact fun hh => hnew (hh ▸ ha)⟩

theorem mem_iff_lookup {acc : List (Nat × List Cbor)} (hn : (acc.map Prod.fst).Nodup) (i : Nat)
    (g : List Cbor) : (i, g) ∈ acc ↔ acc.lookup i = some g := by
  rw [List.lookup_eq_some_iff]
  constructor
  · intro hm
    obtain ⟨l1, l2, rfl⟩ := List.append_of_mem hm
    refine ⟨l1, l2, rfl, fun p hp => ?_⟩
    rw [List.map_append, List.map_cons, List.nodup_append] at hn
    simpa using fun hh => hn.2.2 p.1 (List.mem_map.2 ⟨p, hp, rfl⟩) i List.mem_cons_self hh.symm
  · rintro ⟨l1, l2, rfl, _⟩
    simp

theorem lookup_foldl_insert (S : Sskr) (i : Nat) : ∀ (l : List Cbor) (acc : List (Nat × List Cbor)),
    (l.foldl (fun acc s => insertShare S s acc) acc).lookup i =
      if l.filter (fun s => S.identifier s == i) = [] then acc.lookup i
      else some ((acc.lookup i).getD [] ++ l.filter (fun s => S.identifier s == i))
  | [], acc => by simp
  | s :: l, acc => by
    rw [List.foldl_cons, lookup_foldl_insert S i l, lookup_insertShare, List.filter_cons]
    by_cases hi : i = S.identifier s
    · subst hi
      simp only [beq_self_eq_true, if_true, Option.getD_some, List.append_assoc,
        List.singleton_append, reduceCtorEq, if_false]
      split <;> simp_all
    · have hb : (S.identifier s == i) = false := by
        simp only [beq_eq_false_iff_ne, ne_eq]; exact fun hh => hi hh.symm
      simp only [hi, if_false, hb, Bool.false_eq_true]

/-- the groups are the non-empty classes of the shares under "same identifier", each in the
order of occurrence -/
theorem mem_groupShares (S : Sskr) (l : List Cbor) (g : List Cbor) :
    g ∈ (groupShares S l).map Prod.snd ↔
      ∃ i, g = l.filter (fun s => S.identifier s == i) ∧ g ≠ [] := by
  simp only [List.mem_map, Prod.exists, exists_eq_right,
    mem_iff_lookup (keys_groupShares_nodup S l [] .nil), groupShares, lookup_foldl_insert,
    List.lookup_nil, Option.getD_none, List.nil_append]
  refine exists_congr fun i => ?_
  split
  · rename_i hnil
    exact ⟨nofun, fun hh => absurd (hh.1 ▸ hnil) hh.2⟩
  · rename_i hne
    simp only [Option.some.injEq]
    exact ⟨fun hh => ⟨hh.symm, hh ▸ hne⟩, fun hh => hh.1.symm⟩

section
variable (h : Hash) (A : Aead)

/-- what one group of shares does to the loop of `sskr_join`: `none` when the group is passed
over, else the outcome the loop ends with -/
def groupStep (S : Sskr) (first : Env) (g : List Cbor) : Option (Res Env) :=
  match S.combine g with
  | some secret =>
    if secret.length = 32 then
      match decryptSubject h A secret first with
      | .ok x => some (.ok x.subject)
      | .err _ => none
      | .panic p => some (.panic p)
    else none
  | none => none

theorem joinGroups_eq (S : Sskr) (first : Env) (rest : List Env) : ∀ (G : List (List Cbor)),
    joinGroups h A S (first :: rest) G =
      (G.findSome? (groupStep h A S first)).getD (.err "InvalidShares")
  | [] => rfl
  | g :: G => by
    have ih := joinGroups_eq S first rest G
    unfold joinGroups
    rw [List.findSome?_cons]
    unfold groupStep
    cases S.combine g with
    | none => exact ih
    | some secret =>
      dsimp only [List.head?_cons]
      split
      · cases decryptSubject h A secret first with
        | err y => exact ih
        | _ => rfl
      · exact ih

theorem groupStep_eq_some {S : Sskr} {first : Env} {g : List Cbor} {r : Res Env} :
    groupStep h A S first g = some r ↔
      ∃ key, S.combine g = some key ∧ key.length = 32 ∧
        ((∃ y, decryptSubject h A key first = .ok y ∧ r = .ok y.subject) ∨
          ∃ p, decryptSubject h A key first = .panic p ∧ r = .panic p) := by
  unfold groupStep
  cases S.combine g with
  | none => simp
  | some key =>
    by_cases hl : key.length = 32
    · cases hd : decryptSubject h A key first <;> simp [hl, hd, eq_comm]
    · simp [hl]

theorem sskrJoin_cons (S : Sskr) (first : Env) (rest : List Env) :
    sskrJoin h A S (first :: rest) =
      (allShares h (first :: rest)).bind fun shares =>
        (((groupShares S shares).map Prod.snd).findSome? (groupStep h A S first)).getD
          (.err "InvalidShares") := by
  simp only [sskrJoin, List.isEmpty_cons, Bool.false_eq_true, if_false, sskrSharesIn, joinGroups_eq]
  cases allShares h (first :: rest) <;> rfl

/-- under the AEAD laws at most one key decrypts, so all groups that are not passed over end
the loop alike (when `decrypt_subject` cannot panic on the first envelope) -/
theorem groupStep_unique (L : AeadLaws A) {S : Sskr} {first : Env}
    (hnp : ∀ k p, decryptSubject h A k first ≠ .panic p) {g g' : List Cbor} {r r' : Res Env}
    (h1 : groupStep h A S first g = some r) (h2 : groupStep h A S first g' = some r') : r = r' := by
  obtain ⟨k, _, _, ⟨y, hd, rfl⟩ | ⟨p, hd, _⟩⟩ := (groupStep_eq_some h A).1 h1
  · obtain ⟨k', _, _, ⟨y', hd', rfl⟩ | ⟨p, hd', _⟩⟩ := (groupStep_eq_some h A).1 h2
    · cases Obs.decryptSubject_key_unique h A L hd hd'
      rw [hd] at hd'
      cases hd'
      rfl
    · exact absurd hd' (hnp _ _)
  · exact absurd hd (hnp _ _)

theorem groupStep_shareEnv (L : AeadLaws A) (S : Sskr) {e : Env} (hi : Inv h e)
    (hH : ∀ b, (h.H b).Valid) (hrt : RoundTrips h e.subject) {ck : Bytes} (hck : ck.length = 32)
    (n : Bytes) (sh : Cbor) (g : List Cbor) :
    groupStep h A S (shareEnv h (Obs.encryptSubjectSpec A ck n e) sh) g =
      if S.combine g = some ck then some (.ok e.subject) else none := by
  unfold groupStep
  rw [shareEnv, Obs.encryptSubjectSpec_subject, Obs.encryptSubjectSpec_assertions]
  cases S.combine g with
  | none => rfl
  | some key =>
    dsimp only
    by_cases hk : key = ck
    · subst hk
      rw [Obs.decryptSubject_rebuild h A L key n (hi.subject.digest_valid hH) hrt
        (AW.normAdd_asc hi.2.asc), if_pos hck, if_pos rfl]
      exact congrArg (some ∘ Res.ok) (AW.rebuild_subject h (Or.inr (AW.normAdd_ne_nil _ _)))
    · rw [Obs.decryptSubject_rebuild_wrong_key h A L ck key n hk, if_neg (fun hh => hk (Option.some.inj hh))]
      split <;> rfl

/-- `sskr_join` of share envelopes of one encrypted envelope: it returns the subject of the
original exactly when the shares carrying one of the identifiers combine to the content key -/
theorem join_shareEnvs (L : AeadLaws A) (S : Sskr) {e : Env} (hi : Inv h e)
    (hH : ∀ b, (h.H b).Valid) (hrt : RoundTrips h e.subject) {ck : Bytes} (hck : ck.length = 32)
    (n : Bytes) (hnone : assertionsWithPredicate e (shareKV h) = [])
    (s0 : Cbor) (subs : List Cbor) (hok : ∀ s ∈ s0 :: subs, ShareOk s)
    (hfresh : ∀ s ∈ s0 :: subs, ∀ y ∈ e.assertions, y.digest ≠ (shareAssertion h s).digest) :
    ((∃ i, (s0 :: subs).filter (fun s => S.identifier s == i) ≠ [] ∧
        S.combine ((s0 :: subs).filter (fun s => S.identifier s == i)) = some ck) →
      sskrJoin h A S ((s0 :: subs).map (shareEnv h (Obs.encryptSubjectSpec A ck n e))) =
        .ok e.subject) ∧
    ((∀ i, (s0 :: subs).filter (fun s => S.identifier s == i) ≠ [] →
        S.combine ((s0 :: subs).filter (fun s => S.identifier s == i)) ≠ some ck) →
      sskrJoin h A S ((s0 :: subs).map (shareEnv h (Obs.encryptSubjectSpec A ck n e))) =
        .err "InvalidShares") := by
  have hnone' : assertionsWithPredicate (Obs.encryptSubjectSpec A ck n e) (shareKV h) = [] := by
    rw [AW.awp_eq_filter, Obs.encryptSubjectSpec_assertions, ← AW.awp_eq_filter]
    exact hnone
  have hall := allShares_shareEnvs h (Obs.encryptSubjectSpec_inv h A ck n hi hH) hnone' (s0 :: subs) hok
    (by rw [Obs.encryptSubjectSpec_assertions]; exact hfresh)
  rw [List.map_cons] at hall ⊢
  rw [sskrJoin_cons, hall, Res.ok_bind]
  have hgo := fun g => groupStep_shareEnv h A L S hi hH hrt hck n s0 g
  constructor
  · rintro ⟨i, hne, hc⟩
    rw [List.findSome?_unique ⟨_, (mem_groupShares S _ _).2 ⟨i, rfl, hne⟩, by rw [hgo, if_pos hc]⟩]
    · rfl
    · intro g _ q hq
      rw [hgo g] at hq
      split at hq
      · exact (Option.some.inj hq).symm
      · cases hq
  · intro hno
    rw [List.findSome?_eq_none_iff.2 fun g hg => ?_]
    · rfl
    · obtain ⟨i, rfl, hne⟩ := (mem_groupShares S _ _).1 hg
      rw [hgo, if_neg (hno i hne)]

end

namespace Ex
open ToyDeps ToyRec

theorem nd_noShares : assertionsWithPredicate nd (shareKV H) = [] := by rfl

/-- a 2-of-3 policy in one group -/
def spec : Spec := ⟨1, [(2, 3)]⟩

def shs : List Cbor := shares 5 spec ck

end Ex

end RecL
end EnvVerif
