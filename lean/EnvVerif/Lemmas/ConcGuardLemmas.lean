/-
  Lemmas/ConcGuardLemmas.lean — what the locks of Props/C20.lean guard.

  A resource has one holder (`holds_unique`), so a value written only under a guard (`exec`) is
  written by nobody else while a thread holds the guard.  The lazy discipline `lazyOK` as a state
  invariant (`LazyInv`): while a lazy's initialiser runs, its data mutex is free and unrequested.
-/
import EnvVerif.Lemmas.ConcLemmas

namespace EnvVerif.Conc

def holds (s : State) (tid r : Nat) : Bool :=
  match s.threads[tid]? with
  | some t => t.held.contains r
  | none => false

theorem holds_iff {s : State} {tid r : Nat} :
    holds s tid r = true ↔ ∃ t : Thread, s.threads[tid]? = some t ∧ r ∈ t.held := by
  unfold holds
  cases s.threads[tid]? <;> simp

theorem holds_unique {s : State} (g : Good s) {i j r : Nat} (hi : holds s i r = true)
    (hj : holds s j r = true) : i = j := by
  obtain ⟨t, ht, hr⟩ := holds_iff.1 hi
  obtain ⟨u, hu, hr'⟩ := holds_iff.1 hj
  exact Option.some.inj ((g.held_owned i t ht r hr).symm.trans (g.held_owned j u hu r hr'))

/-- Events of an execution with a shared value of type `C` (the formatting context) next to the
lock state: a thread makes a step of its lock program, or *writes* the value (`register_tags`);
reading is observing the current value.  A write is possible only for a thread that holds
`guard`: the hypothesis "every access to the context happens while FMT is held" is built into
`exec` (an execution with an unguarded write is `none`). -/
inductive Ev (C : Type) where
  | step (tid : Nat)
  | write (tid : Nat) (v : C)
  deriving DecidableEq

def exec1 {C : Type} (guard : Nat) (sc : State × C) : Ev C → Option (State × C)
  | .step tid =>
      match step sc.1 tid with
      | some s' => some (s', sc.2)
      | none => none
  | .write tid v => if holds sc.1 tid guard then some (sc.1, v) else none

def exec {C : Type} (guard : Nat) : State × C → List (Ev C) → Option (State × C)
  | sc, [] => some sc
  | sc, e :: es =>
      match exec1 guard sc e with
      | some sc' => exec guard sc' es
      | none => none

/-- thread `i` holds the guard in every state the execution goes through -/
def holdsAlong {C : Type} (guard i : Nat) : State × C → List (Ev C) → Bool
  | sc, [] => holds sc.1 i guard
  | sc, e :: es =>
      holds sc.1 i guard &&
        (match exec1 guard sc e with
         | some sc' => holdsAlong guard i sc' es
         | none => true)

/-- the values of the context along the execution: what a read returns at each point -/
def ctxTrace {C : Type} (guard : Nat) : State × C → List (Ev C) → List C
  | sc, [] => [sc.2]
  | sc, e :: es =>
      sc.2 :: (match exec1 guard sc e with
               | some sc' => ctxTrace guard sc' es
               | none => [])

theorem exec1_some {C : Type} {guard : Nat} {e : Ev C} {sc sc' : State × C}
    (h : exec1 guard sc e = some sc') :
    (∃ tid, e = .step tid ∧ step sc.1 tid = some sc'.1 ∧ sc'.2 = sc.2) ∨
    (∃ tid, e = .write tid sc'.2 ∧ holds sc.1 tid guard = true ∧ sc'.1 = sc.1) := by
  cases e with
  | step tid =>
    rw [exec1] at h
    cases hst : step sc.1 tid with
    | none => rw [hst] at h; cases h
    | some s1 => rw [hst] at h; cases h; exact .inl ⟨tid, rfl, hst, rfl⟩
  | write tid v =>
    rw [exec1] at h
    split at h <;> cases h
    exact .inr ⟨tid, rfl, ‹_›, rfl⟩

theorem exec_cons {C : Type} {guard : Nat} {e : Ev C} {es : List (Ev C)} {sc sc' : State × C} :
    exec guard sc (e :: es) = some sc' ↔
      ∃ sc1, exec1 guard sc e = some sc1 ∧ exec guard sc1 es = some sc' := by
  rw [exec]; cases exec1 guard sc e <;> simp

theorem holdsAlong_cons {C : Type} {guard i : Nat} {e : Ev C} {es : List (Ev C)}
    {sc sc1 : State × C} (h1 : exec1 guard sc e = some sc1) :
    holdsAlong guard i sc (e :: es) = true ↔
      holds sc.1 i guard = true ∧ holdsAlong guard i sc1 es = true := by
  rw [holdsAlong, h1, Bool.and_eq_true]

theorem exec1_good {C : Type} {guard : Nat} {e : Ev C} {sc sc' : State × C}
    (g : Good sc.1) (h : exec1 guard sc e = some sc') : Good sc'.1 := by
  rcases exec1_some h with ⟨tid, _, hst, _⟩ | ⟨tid, _, _, hs⟩
  · exact good_step_of g hst
  · rw [hs]; exact g

theorem exec_good {C : Type} {guard : Nat} {es : List (Ev C)} : ∀ {sc sc' : State × C},
    Good sc.1 → exec guard sc es = some sc' → Good sc'.1 := by
  induction es with
  | nil => intro sc sc' g h; cases h; exact g
  | cons e es ih =>
    intro sc sc' g h
    obtain ⟨sc1, h1, h2⟩ := exec_cons.1 h
    exact ih (exec1_good g h1) h2

theorem exec_no_write {C : Type} {guard : Nat} {es : List (Ev C)} : ∀ {sc sc' : State × C},
    exec guard sc es = some sc' → (∀ tid v, Ev.write tid v ∉ es) → sc'.2 = sc.2 := by
  induction es with
  | nil => intro sc sc' h _; cases h; rfl
  | cons e es ih =>
    intro sc sc' h hnw
    obtain ⟨sc1, h1, h2⟩ := exec_cons.1 h
    rw [ih h2 fun tid v hm => hnw tid v (List.mem_cons_of_mem _ hm)]
    rcases exec1_some h1 with ⟨_, _, _, hc⟩ | ⟨tid, he, _, _⟩
    · exact hc
    · exact absurd (by rw [he]; exact List.mem_cons_self) (hnw tid sc1.2)

theorem writes_own {C : Type} {guard i : Nat} {es : List (Ev C)} : ∀ {sc sc' : State × C},
    Good sc.1 → exec guard sc es = some sc' →
    holdsAlong guard i sc es = true → ∀ tid v, Ev.write tid v ∈ es → tid = i := by
  induction es with
  | nil => intro _ _ _ _ _ _ _ hm; cases hm
  | cons e es ih =>
    intro sc sc' g h hh tid v hm
    obtain ⟨sc1, h1, h2⟩ := exec_cons.1 h
    rw [holdsAlong_cons h1] at hh
    rcases List.mem_cons.1 hm with rfl | hm'
    · rcases exec1_some h1 with ⟨_, he, _⟩ | ⟨_, he, hw, _⟩
      · cases he
      · cases he; exact holds_unique g hw hh.1
    · exact ih (exec1_good g h1) h2 hh.2 tid v hm'

theorem ctx_stable {C : Type} {guard i : Nat} {es : List (Ev C)} : ∀ {sc : State × C},
    Good sc.1 → holdsAlong guard i sc es = true → (∀ v, Ev.write i v ∉ es) →
    ∀ x ∈ ctxTrace guard sc es, x = sc.2 := by
  induction es with
  | nil => intro sc _ _ _ x hx; rw [ctxTrace] at hx; exact List.mem_singleton.1 hx
  | cons e es ih =>
    intro sc g hh hnw x hx
    rw [ctxTrace] at hx
    rcases List.mem_cons.1 hx with rfl | hx
    · rfl
    · cases h1 : exec1 guard sc e with
      | none => rw [h1] at hx; cases hx
      | some sc1 =>
        rw [h1] at hx
        rw [holdsAlong_cons h1] at hh
        rw [ih (exec1_good g h1) hh.2 (fun v hm => hnw v (List.mem_cons_of_mem _ hm)) x hx]
        rcases exec1_some h1 with ⟨_, _, _, hc⟩ | ⟨tid, he, hw, _⟩
        · exact hc
        · cases holds_unique g hw hh.1
          exact absurd (by rw [he]; exact List.mem_cons_self) (hnw sc1.2)

theorem lazyOK_nil (o m : Nat) (k : Bool) : lazyOK o m k [] = true := by rw [lazyOK]

theorem lazyOK_cons (o m : Nat) (k : Bool) (i : Instr) (rest : List Instr) :
    lazyOK o m k (i :: rest) = true ↔
      lazyOKI o m k i = true ∧ lazyOK o m (k || finishes o i) rest = true := by
  rw [lazyOK, Bool.and_eq_true]

theorem lazyOKI_acq {o m r : Nat} {k : Bool} :
    lazyOKI o m k (.acq r) = true ↔ r ≠ o ∧ (r = m → k = true) := by
  rw [lazyOKI]; by_cases h : r = m <;> simp [h]

theorem lazyOKI_once {o m r : Nat} {k : Bool} {body : List Instr} :
    lazyOKI o m k (.once r body) = true ↔ r ≠ m ∧ lazyOK o m k body = true := by
  rw [lazyOKI]; simp

mutual
theorem lazyOK_true : ∀ (o m : Nat) (p : List Instr) (k : Bool),
    lazyOK o m k p = true → lazyOK o m true p = true
  | _, _, [], _, _ => by rw [lazyOK]
  | o, m, i :: rest, k, h => by
    rw [lazyOK_cons] at h ⊢
    exact ⟨lazyOKI_true o m i k h.1, lazyOK_true o m rest _ h.2⟩
theorem lazyOKI_true : ∀ (o m : Nat) (i : Instr) (k : Bool),
    lazyOKI o m k i = true → lazyOKI o m true i = true
  | _, _, .acq r, k, h => by
    rw [lazyOKI_acq] at h ⊢
    exact ⟨h.1, fun _ => rfl⟩
  | _, _, .rel _, _, _ => by rw [lazyOKI]
  | _, _, .done _, _, _ => by rw [lazyOKI]
  | o, m, .once r body, k, h => by
    rw [lazyOKI_once] at h ⊢
    exact ⟨h.1, lazyOK_true o m body k h.2⟩
end

/-- knowing more only helps.  The lemma to use: `lazyOK_true` / `lazyOKI_true` above are its case
`k' = true`, proved by the mutual recursion, and serve only here. -/
theorem lazyOK_mono {o m : Nat} {p : List Instr} {k k' : Bool} (hk : k = true → k' = true)
    (h : lazyOK o m k p = true) : lazyOK o m k' p = true := by
  cases k' with
  | true => exact lazyOK_true o m p k h
  | false =>
    cases k with
    | true => exact absurd (hk rfl) (by simp)
    | false => exact h

theorem lazyOK_append {o m : Nat} : ∀ (p q : List Instr) (k : Bool),
    lazyOK o m k p = true → lazyOK o m k q = true → lazyOK o m k (p ++ q) = true
  | [], _, _, _, hq => hq
  | i :: p, q, k, hp, hq => by
    rw [lazyOK_cons] at hp
    rw [List.cons_append, lazyOK_cons]
    exact ⟨hp.1, lazyOK_append p q _ hp.2 (lazyOK_mono (fun e => by simp [e]) hq)⟩

/-- the discipline of lazy `(o, m)` as a state invariant: with `k` = "`o` has completed",
  * what is left of every program takes `m` only where `o` is known to have completed,
    and whoever holds `m` does so after `o` completed,
  * while somebody is the runner of `o`, `o` has not completed. -/
structure LazyInv (o m : Nat) (s : State) : Prop where
  thread_ok : ∀ (i : Nat) (t : Thread), s.threads[i]? = some t →
    lazyOK o m (s.finished.contains o) t.pc = true ∧ (m ∈ t.held → s.finished.contains o = true)
  running_before : ∀ u : Nat, s.owner o = some u → s.finished.contains o = false

theorem lazyInv_init {o m : Nat} {progs : List (List Instr)}
    (h : ∀ p ∈ progs, lazyOK o m false p = true) : LazyInv o m (init progs) := by
  refine ⟨fun i t ht => ?_, fun u hu => nomatch hu⟩
  obtain ⟨p, hp, rfl⟩ := List.mem_map.1 (List.mem_of_getElem? ht)
  exact ⟨h p hp, fun hm => nomatch hm⟩

theorem LazyInv.move {o m : Nat} {s : State} {i : Nat} {t : Thread} (li : LazyInv o m s)
    (ht : s.threads[i]? = some t) {pc' : List Instr} {held' : List Nat}
    {own' : Nat → Option Nat} {fin' : List Nat}
    (hk : s.finished.contains o = true → fin'.contains o = true)
    (hpc : lazyOK o m (fin'.contains o) pc' = true)
    (hheld : m ∈ held' → fin'.contains o = true)
    (hrun : ∀ u, own' o = some u → fin'.contains o = false) :
    LazyInv o m ⟨s.threads.set i ⟨pc', held'⟩, own', fin'⟩ :=
  ⟨forall_set ht ⟨hpc, hheld⟩ fun j u _ hu =>
    ⟨lazyOK_mono hk (li.thread_ok j u hu).1, fun hm => hk ((li.thread_ok j u hu).2 hm)⟩, hrun⟩

theorem lazyInv_step {o m : Nat} {s s' : State} {tid : Nat} (li : LazyInv o m s)
    (h : step s tid = some s') : LazyInv o m s' := by
  obtain ⟨t, ht, hs⟩ := step_iff.1 h
  obtain ⟨hp, hheld⟩ := li.thread_ok tid t ht
  -- `r` changes hands, not to a new runner of `o`: who runs `o` afterwards ran it before, and `r ≠ o`
  have hrun : ∀ (r : Nat) (v : Option Nat) (u : Nat), (r = o → v = none) →
      upd s.owner r v o = some u → r ≠ o ∧ s.finished.contains o = false := fun r v u hv hu => by
    rw [upd_apply] at hu
    by_cases e : o = r
    · rw [if_pos e, hv e.symm] at hu; cases hu
    · rw [if_neg e] at hu; exact ⟨Ne.symm e, li.running_before u hu⟩
  cases hs with
  | @acq r rest hpc ho =>
    rw [hpc, lazyOK_cons, lazyOKI_acq] at hp; simp only [finishes, Bool.or_false] at hp
    refine li.move ht id hp.2 (fun hm => ?_) fun u hu =>
      (hrun r _ u (fun e => absurd e hp.1.1) hu).2
    rcases List.mem_cons.1 hm with rfl | hm
    · exact hp.1.2 rfl
    · exact hheld hm
  | rel hpc ho =>
    rw [hpc, lazyOK_cons] at hp; simp only [finishes, Bool.or_false] at hp
    exact li.move ht id hp.2 (fun hm => hheld (mem_drop.1 hm).1) fun u hu =>
      (hrun _ none u (fun _ => rfl) hu).2
  | @done r rest hpc ho =>
    -- the flag with which `lazyOK` goes on after `done r` is "`o` has completed" of the new state
    have hc : (r :: s.finished).contains o = (s.finished.contains o || finishes o (.done r)) := by
      rw [List.contains_cons, finishes, Bool.or_comm, BEq.comm]
    have hk : s.finished.contains o = true → (r :: s.finished).contains o = true :=
      fun e => by rw [hc, e, Bool.true_or]
    rw [hpc, lazyOK_cons, ← hc] at hp
    refine li.move ht hk hp.2 (fun hm => hk (hheld (mem_drop.1 hm).1)) fun u hu => ?_
    obtain ⟨hne, hf⟩ := hrun r none u (fun _ => rfl) hu
    rw [hc, hf, finishes, Bool.false_or]
    exact beq_false_of_ne hne
  | @skip r body rest hpc hf =>
    rw [hpc, lazyOK_cons] at hp; simp only [finishes] at hp
    refine li.move ht id (lazyOK_mono (fun e => ?_) hp.2) hheld li.running_before
    rcases Bool.or_eq_true _ _ ▸ e with e | e
    · exact e
    · rw [← eq_of_beq e]; exact hf
  | @enter r body rest hpc hf ho =>
    rw [hpc, lazyOK_cons, lazyOKI_once] at hp
    refine li.move ht id (lazyOK_append _ _ _ hp.1.2 ?_) (fun hm => ?_)
      fun u hu => ?_
    · rw [lazyOK_cons, lazyOKI]; exact ⟨rfl, hp.2⟩
    · rcases List.mem_cons.1 hm with rfl | hm
      · exact absurd rfl hp.1.1
      · exact hheld hm
    · by_cases e : o = r
      · rw [e]; exact hf
      · exact (hrun r (some tid) u (fun e' => absurd e'.symm e) hu).2

theorem store_free {o m : Nat} {s : State} (g : Good s) (li : LazyInv o m s) {u : Nat}
    (hrun : s.owner o = some u) : s.owner m = none := by
  cases hm : s.owner m with
  | none => rfl
  | some w =>
    obtain ⟨t, ht, hmem⟩ := g.owned_held m w hm
    exact Bool.noConfusion (((li.thread_ok w t ht).2 hmem).symm.trans (li.running_before u hrun))

theorem store_unrequested {o m : Nat} {s : State} (li : LazyInv o m s) {u : Nat}
    (hrun : s.owner o = some u) (i : Nat) (t : Thread) (ht : s.threads[i]? = some t)
    (rest : List Instr) : t.pc ≠ Instr.acq m :: rest := by
  intro e
  have h := (li.thread_ok i t ht).1
  rw [e, lazyOK_cons, lazyOKI_acq, li.running_before u hrun] at h
  exact Bool.noConfusion (h.1.2 rfl)

theorem lazy_flatten {o m : Nat} {ops : List (List Instr)}
    (h : ∀ p ∈ ops, lazyOK o m false p = true) : lazyOK o m false ops.flatten = true := by
  induction ops with
  | nil => exact lazyOK_nil ..
  | cons p ops ih =>
    exact lazyOK_append _ _ _ (h p List.mem_cons_self)
      (ih fun q hq => h q (List.mem_cons_of_mem _ hq))

theorem withFMT_lazy (k : Nat) : lazyDisciplined (withFMT k) = true := by
  refine List.all_eq_true.2 fun l hl => ?_
  have h1 : ∀ l ∈ lazies, lazyOK l.1 l.2 false getFMT = true := by decide +kernel
  have h2 : ∀ l ∈ lazies, lazyOK l.1 l.2 false tagsBrief = true := by decide +kernel
  have h3 : ∀ l ∈ lazies, lazyOK l.1 l.2 false [Instr.rel FMT] = true := by decide +kernel
  have h4 : lazyOK l.1 l.2 false (List.replicate k tagsBrief).flatten = true :=
    lazy_flatten fun p hp => List.eq_of_mem_replicate hp ▸ h2 l hl
  exact lazyOK_append _ _ _ (lazyOK_append _ _ _ (h1 l hl) h4) (h3 l hl)

end EnvVerif.Conc
