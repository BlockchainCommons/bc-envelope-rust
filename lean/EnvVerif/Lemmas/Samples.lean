/-
  Lemmas/Samples.lean — the obscured sample envelopes of the satisfiability examples of C01 / C04,
  and that each operation succeeds on its sample.  Most are instances of the general theorems;
  evaluated are the round trip of the byte codec on two samples (`sA3_rt`, `wrap_sA1_rt`), the four
  decoder calls of `sDecodeParts_ok` and `sUncompressSubject_ok`.
-/
import EnvVerif.Lemmas.InvLemmas
import EnvVerif.Lemmas.ElideLemmas
namespace EnvVerif
open Env
namespace InvL

/-- the sample node with its subject compressed -/
def sNodeC : Env :=
  .node (.compressed (compressedOf idDeflate (encode sSubj)) sSubj.digest) [sA2, sA1] sNode.digest
/-- `sA3` encrypted as a whole element -/
def sEnc : Env :=
  .encrypted (encryptWithDigest idAead [1] [2] (encode sA3) sA3.digest) sA3.digest
/-- `sA1` wrapped and encrypted (`encrypt`) -/
def sEncW : Env :=
  .encrypted (encryptWithDigest idAead [1] [2] (encode (wrap toyHash sA1)) (wrap toyHash sA1).digest)
    (wrap toyHash sA1).digest
def sComp : Env := .compressed (compressedOf idDeflate (encode sA3)) sA3.digest
/-- an encrypted message in the exact shape the decoder accepts -/
def sMsg : EncMsg :=
  { ciphertext := encode sA3, nonce := List.replicate 12 0, auth := List.replicate 16 0,
    aad := (digestCbor sA3.digest).enc }
def sTarget : Digest → Bool := fun d => d == sA1.digest
def sEncAct : Action := .encrypt [1] (fun _ => [2])

theorem sNodeC_inv : Inv toyHash sNodeC :=
  setSubject_inv toyHash sNode_inv (s := .compressed _ sSubj.digest) ⟨trivial, toyHash_valid _⟩ rfl
theorem sEnc_inv : Inv toyHash sEnc :=
  ⟨optDigest_encryptWithDigest _ _ _ _ (toyHash_valid _), toyHash_valid _⟩
theorem sEncW_inv : Inv toyHash sEncW :=
  ⟨optDigest_encryptWithDigest _ _ _ _ (toyHash_valid _), toyHash_valid _⟩
theorem sComp_inv : Inv toyHash sComp := ⟨trivial, toyHash_valid _⟩

theorem sElideSet_ok :
    (∃ r, elideSet toyHash idAead idDeflate sTarget false .elide sNode = .ok r) ∧
    (∃ r, elideSet toyHash idAead idDeflate sTarget false .compress sNode = .ok r) ∧
    (∃ r, elideSet toyHash idAead idDeflate sTarget false sEncAct sNode = .ok r) ∧
    (∃ r, elideSet toyHash idAead idDeflate sTarget true .elide sNode = .ok r) :=
  have ok (rev act) := elideSet_isOk toyHash idAead idDeflate sTarget rev act sNode_inv
    (ActOk.of_laws (fun _ => aadOk_of_valid) toyHash_valid sNode_inv act)
  ⟨ok .., ok .., ok .., ok ..⟩

theorem sEncryptSubject_ok : ∃ r, encryptSubject toyHash idAead [1] [2] sNode = .ok r :=
  ⟨_, encryptSubject_eq toyHash idAead [1] [2] sNode_inv (aadOk_of_valid (toyHash_valid _))⟩

theorem sEncryptWhole_ok : ∃ r, encryptWhole toyHash idAead [1] [2] sNode = .ok r :=
  ⟨_, (encryptWhole_eq_ok toyHash idAead).2
    (encryptSubject_eq toyHash idAead [1] [2] sNode_inv.newWrapped (aadOk_of_valid (toyHash_valid _)))⟩

theorem sDecodeParts_ok :
    (∃ e, decodeEncrypted (encMsgCbor sMsg) = .ok e) ∧
    (∃ e, decodeCompressed (compMsgCbor (compressedOf idDeflate (encode sA3)) sA3.digest) = .ok e) ∧
    (∃ e, envOfCbor toyHash (cborOf sA3) = .ok e) ∧
    (∃ e, envOfTaggedCbor toyHash (taggedCborOf sA3) = .ok e) := by
  refine ⟨Res.isOk_iff.1 ?_, Res.isOk_iff.1 ?_, Res.isOk_iff.1 ?_, Res.isOk_iff.1 ?_⟩ <;> decide +kernel

theorem sA3_rt : RoundTrips toyHash sA3 := by rfl
theorem wrap_sA1_rt : RoundTrips toyHash (wrap toyHash sA1) := by rfl

theorem sDecode_ok : ∃ r, decode toyHash (encode sA3) = .ok r := ⟨_, sA3_rt⟩
theorem sUncompress_ok : ∃ r, uncompress toyHash idDeflate sComp = .ok r :=
  ⟨_, Obs.uncompress_compressedOf toyHash (Z := idDeflate) ⟨fun _ => rfl⟩ sA3_rt⟩
theorem sUncompressSubject_ok : ∃ r, uncompressSubject toyHash idDeflate sNodeC = .ok r :=
  Res.isOk_iff.1 (by decide +kernel)

theorem decryptSubject_sample {k n : Bytes} {x : Env} (hv : x.digest.Valid)
    (hrt : RoundTrips toyHash x) :
    decryptSubject toyHash idAead k
      (.encrypted (encryptWithDigest idAead k n (encode x) x.digest) x.digest) = .ok x := by
  rw [Obs.decryptSubject_opened toyHash idAead (k := k) (r := .encrypted _ x.digest) (pt := encode x)
    rfl rfl (optDigest_encryptWithDigest idAead k n (encode x) hv) hrt]
  rfl

theorem sDecryptSubject_ok : ∃ r, decryptSubject toyHash idAead [1] sEnc = .ok r :=
  ⟨_, decryptSubject_sample (x := sA3) (toyHash_valid _) sA3_rt⟩
theorem sDecryptWhole_ok : ∃ r, decryptWhole toyHash idAead [1] sEncW = .ok r := by
  refine ⟨sA1, ?_⟩
  rw [decryptWhole, sEncW,
    decryptSubject_sample (x := wrap toyHash sA1) (toyHash_valid _) wrap_sA1_rt]
  rfl

end InvL
end EnvVerif
