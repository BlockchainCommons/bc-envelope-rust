/-
  Lemmas/ExprLemmas.lean — expressions, requests, responses, events (C18).  The collision-freedom
  hypotheses (`KVDistinct`, `DistinctDigests`); each conversion to an envelope in closed form
  (`built h subject assertions`); each parser walked once (`*_parse_sat`: it never panics and
  accepts only the subject of what it returns); the hypotheses of the byte round trip of C05
  (`Sendable`); the toy hashes of the examples.
-/
import EnvVerif.Model.Expr
import EnvVerif.Lemmas.ExtLemmas
import EnvVerif.Lemmas.CodecLemmas
namespace EnvVerif
namespace ExprL
open Env AW ExtL

/-- the known values used as predicates by requests, responses and events -/
def kvList : List Nat := [KV_BODY, KV_NOTE, KV_DATE, KV_RESULT, KV_ERROR, KV_CONTENT]

/-- `h` does not collide on the six known values of `kvList` (the digest of a known value `v` is
`h.H (enc #6.40000(v))`) -/
structure KVDistinct (h : Hash) : Prop where
  ne : ∀ a ∈ kvList, ∀ b ∈ kvList, a ≠ b → (newKnownValue h a).digest ≠ (newKnownValue h b).digest

/-- Collision-freedom of `h` on the (at most three) assertions of one request / event, whose
digests are `h.H (pred.digest ‖ obj.digest)`; per instance, because a quantification over all
objects would be false for any real hash.  It is the `Pairwise` that `digInj_of_pairwise`,
`AscDigests.distinct`, `sortByDigest_asc` write out: they apply to it as it stands. -/
def DistinctDigests (l : List Env) : Prop := l.Pairwise (fun a b => a.digest ≠ b.digest)

theorem KVDistinct.beq_false {h : Hash} (kv : KVDistinct h) {a b : Nat} (ha : a ∈ kvList)
    (hb : b ∈ kvList) (hab : a ≠ b) :
    ((newKnownValue h a).digest == (newKnownValue h b).digest) = false := by
  simp [kv.ne a ha b hb hab]

def kvA (h : Hash) (k : Nat) (o : Env) : Env := newAssertion h (newKnownValue h k) o

/-- the optional 'note' and 'date' assertions of a request / event -/
def metaAsserts (h : Hash) (note : Bytes) (date : Option Int) : List Env :=
  (if note.isEmpty then [] else [kvA h KV_NOTE (newLeaf h (.text note))]) ++
  (match date with
    | some d => [kvA h KV_DATE (newLeaf h (dateCbor d))]
    | none => [])

/-- the assertions of the envelope of a request, in the order they are added -/
def reqAsserts (h : Hash) (r : Request) : List Env :=
  kvA h KV_BODY r.body.envelope :: metaAsserts h r.note r.date

/-- likewise of an event -/
def evAsserts (h : Hash) (ev : Event) : List Env :=
  kvA h KV_CONTENT (newLeaf h (.text ev.content)) :: metaAsserts h ev.note ev.date

/-- the subject of a request / response / event envelope -/
def idSubject (h : Hash) (tag : Nat) (id : Bytes) : Env := newLeaf h (.tagged tag (aridCbor id))

def respSubject (h : Hash) : Response → Env
  | .success id _ => idSubject h TAG_RESPONSE id
  | .failure (some id) _ => idSubject h TAG_RESPONSE id
  | .failure none _ => newLeaf h (.tagged TAG_RESPONSE (knownValueCbor KV_UNKNOWN))

def respAssert (h : Hash) : Response → Env
  | .success _ r => kvA h KV_RESULT r
  | .failure _ er => kvA h KV_ERROR er

/-- the assertion `❰parameter p❱: v` of an expression -/
def paramA (h : Hash) (pv : Ident × Env) : Env :=
  newAssertion h (newLeaf h (identCbor TAG_PARAMETER pv.1)) pv.2

/-- `with_parameter` applied for each `(parameter, value)` of a list, in order -/
def withParams (h : Hash) : Expression → List (Ident × Env) → Res Expression
  | x, [] => .ok x
  | x, pv :: ps => (x.withParameter h pv.1 pv.2).bind fun y => withParams h y ps

def fnSubject (h : Hash) (f : Ident) : Env := newLeaf h (identCbor TAG_FUNCTION f)

/-- the envelope with subject `s` obtained by adding the elements of `l` one by one -/
def built (h : Hash) (s : Env) (l : List Env) : Env := rebuild h s (l.foldl normAdd [])

def exprEnv (h : Hash) (f : Ident) (ps : List (Ident × Env)) : Env :=
  built h (fnSubject h f) (ps.map (paramA h))

theorem built_subject (h : Hash) {s : Env} (l : List Env) (hs : s.isNode = false) :
    (built h s l).subject = s := AW.rebuild_subject h (Or.inl hs)

theorem built_assertions (h : Hash) {s : Env} (l : List Env) (hs : s.isNode = false) :
    (built h s l).assertions = l.foldl normAdd [] := AW.rebuild_assertions h (Or.inl hs)

theorem built_asc (h : Hash) {s : Env} (l : List Env) (hs : s.isNode = false) :
    AscDigests (built h s l).assertions :=
  built_assertions h l hs ▸ foldl_normAdd_asc l List.Pairwise.nil

/-- with pairwise different digests nothing is dropped (both lists are duplicate-free and have
the same elements) -/
theorem built_perm {h : Hash} {s : Env} {l : List Env} (hs : s.isNode = false)
    (hd : DistinctDigests l) : (built h s l).assertions.Perm l := by
  refine (List.perm_ext_iff_of_nodup (asc_nodup (built_asc h l hs))
    (List.Pairwise.imp (fun hne heq => hne (congrArg Env.digest heq)) hd)).2 fun x => ?_
  rw [built_assertions h l hs, mem_foldl_normAdd l (digInj_of_pairwise hd)]
  simp

theorem idSubject_notNode (h : Hash) (tag : Nat) (id : Bytes) : (idSubject h tag id).isNode = false := rfl

/-- the common chain of `Envelope::from(Request)` and `Envelope::from(Event)` -/
theorem chain_eq (h : Hash) (s p o : Env) (note : Bytes) (date : Option Int) (hs : s.isNode = false) :
    ((addAssertionUnwrap h s p o).bind fun e1 =>
      (addAssertionIf h (!note.isEmpty) e1 (newKnownValue h KV_NOTE) (newLeaf h (.text note))).bind fun e2 =>
        match date with
        | some d => addAssertionUnwrap h e2 (newKnownValue h KV_DATE) (newLeaf h (dateCbor d))
        | none => .ok e2)
      = .ok (built h s (newAssertion h p o :: metaAsserts h note date)) := by
  rw [addUnwrap_bare h p o hs]
  cases hn : note.isEmpty <;> cases date <;>
    simp [built, Res.bind, addAssertionIf, metaAsserts, hn, addUnwrap_rebuild h _ _ _ hs, kvA, normAdd_nil]

theorem request_toEnvelope_eq (h : Hash) (r : Request) :
    Request.toEnvelope h r =
      .ok (built h (idSubject h TAG_REQUEST r.id) (reqAsserts h r)) :=
  chain_eq h _ _ _ r.note r.date rfl

theorem event_toEnvelope_eq (h : Hash) (ev : Event) :
    Event.toEnvelope h ev =
      .ok (built h (idSubject h TAG_EVENT ev.id) (evAsserts h ev)) :=
  chain_eq h _ _ _ ev.note ev.date rfl

theorem response_toEnvelope_eq (h : Hash) (v : Response) :
    Response.toEnvelope h v = .ok (nodeOf h (respSubject h v) [respAssert h v]) := by
  rcases v with _ | ⟨_ | _, _⟩ <;> exact addUnwrap_bare h (s := newLeaf h _) _ _ rfl

theorem withParameter_rebuild (h : Hash) (f : Ident) {s : Env} (as : List Env) (pv : Ident × Env)
    (hs : s.isNode = false) :
    Expression.withParameter h ⟨f, rebuild h s as⟩ pv.1 pv.2 =
      .ok ⟨f, rebuild h s (normAdd as (paramA h pv))⟩ := by
  unfold Expression.withParameter
  simp only []  -- reduces the projections of `⟨f, rebuild h s as⟩`, so that the `rw` finds its pattern
  rw [add_rebuild h (Or.inl hs) rfl]
  rfl

theorem withParams_rebuild (h : Hash) (f : Ident) {s : Env} (hs : s.isNode = false) :
    ∀ (ps : List (Ident × Env)) (as : List Env),
      withParams h ⟨f, rebuild h s as⟩ ps =
        .ok ⟨f, rebuild h s ((ps.map (paramA h)).foldl normAdd as)⟩
  | [], _ => rfl
  | pv :: ps, as => by
    simp only [withParams, withParameter_rebuild h f as pv hs, Res.bind, List.map_cons,
      List.foldl_cons]
    exact withParams_rebuild h f hs ps _

theorem withParams_new (h : Hash) (f : Ident) (ps : List (Ident × Env)) :
    withParams h (Expression.new h f) ps = .ok ⟨f, exprEnv h f ps⟩ :=
  withParams_rebuild h f (s := fnSubject h f) rfl ps []

theorem subjectLeaf_rebuild (h : Hash) (c : Cbor) (d : Digest) (as : List Env) :
    subjectLeaf (rebuild h (.leaf c d) as) = some c := by
  cases as <;> rfl

theorem dateCbor_read (d : Int) : dateOfCbor? (dateCbor d) = some d := by
  unfold dateCbor
  split <;> simp [dateOfCbor?, TAG_DATE] <;> omega

theorem subjectArid_idSubject {h : Hash} {tag : Nat} {id : Bytes} {e : Env}
    (hsub : e.subject = idSubject h tag id) (hid : id.length = 32) : subjectArid tag e = .ok id := by
  unfold subjectArid
  rw [hsub]
  simp [idSubject, newLeaf, aridCbor, aridOfCbor?, hid]

/-- what is stored under the three keys of an envelope with, up to order, the assertions of a
request / event (`k`: 'body' / 'content') -/
theorem chain_awp {h : Hash} (kv : KVDistinct h) {e : Env} {k : Nat} {o : Env} {note : Bytes}
    {date : Option Int} (hperm : e.assertions.Perm (kvA h k o :: metaAsserts h note date))
    (hk : k ∈ kvList) (hkn : k ≠ KV_NOTE) (hkd : k ≠ KV_DATE) :
    assertionsWithPredicate e (newKnownValue h k) = [kvA h k o] ∧
    assertionsWithPredicate e (newKnownValue h KV_NOTE) =
      (if note.isEmpty then [] else [kvA h KV_NOTE (newLeaf h (.text note))]) ∧
    assertionsWithPredicate e (newKnownValue h KV_DATE) =
      (date.map fun d => kvA h KV_DATE (newLeaf h (dateCbor d))).toList := by
  have kn := kv.beq_false hk (b := KV_NOTE) (by decide) hkn
  have kd := kv.beq_false hk (b := KV_DATE) (by decide) hkd
  have nk := kv.beq_false (a := KV_NOTE) (by decide) hk hkn.symm
  have dk := kv.beq_false (a := KV_DATE) (by decide) hk hkd.symm
  have nd := kv.beq_false (a := KV_NOTE) (b := KV_DATE) (by decide) (by decide) (by decide)
  have dn := kv.beq_false (a := KV_DATE) (b := KV_NOTE) (by decide) (by decide) (by decide)
  refine ⟨awp_of_perm hperm ?_ (Nat.le_refl 1), awp_of_perm hperm ?_ (by split <;> simp),
    awp_of_perm hperm ?_ (by cases date <;> simp)⟩
  -- the keys being apart, each of the three filters keeps its own assertion, if there is one
  all_goals
    unfold metaAsserts
    cases note.isEmpty <;> cases date <;> simp [kvA, matchesPred_newAssertion, kn, kd, nk, dk, nd, dn]

/-- the four lookups of `Request::try_from` / `Event::try_from` on any envelope with the subject
and (up to order) the assertions of a request / event (`k`: 'body' / 'content') -/
theorem chain_lookups {h : Hash} (kv : KVDistinct h) {e : Env} {tag k : Nat} {o : Env} {id note : Bytes}
    {date : Option Int} (hsub : e.subject = idSubject h tag id) (hid : id.length = 32)
    (hperm : e.assertions.Perm (kvA h k o :: metaAsserts h note date))
    (hk : k ∈ kvList) (hkn : k ≠ KV_NOTE) (hkd : k ≠ KV_DATE) :
    objectForPredicate e (newKnownValue h k) = .ok o ∧ subjectArid tag e = .ok id ∧
      extractTextOrDefault e (newKnownValue h KV_NOTE) = .ok note ∧
      extractOptionalDate e (newKnownValue h KV_DATE) = .ok date := by
  obtain ⟨h1, h2, h3⟩ := chain_awp kv hperm hk hkn hkd
  refine ⟨ofp_single h1 rfl, subjectArid_idSubject hsub hid, ?_, ?_⟩
  · unfold extractTextOrDefault
    rw [extractOptionalTextObjectForPredicate_eq]
    cases hne : note.isEmpty <;> simp only [hne] at h2
    · rw [oofp_single h2 rfl]; rfl
    · rw [oofp_nil h2, List.isEmpty_iff.1 hne]; rfl
  · unfold extractOptionalDate
    cases date with
    | none => rw [oofp_nil h3]
    | some d => rw [oofp_single h3 rfl]; simp [newLeaf, subjectLeaf, dateCbor_read]

theorem request_parse_of_shape {h : Hash} (kv : KVDistinct h) (r : Request) (e : Env)
    (exp : Option Ident) (hsub : e.subject = idSubject h TAG_REQUEST r.id)
    (hperm : e.assertions.Perm (reqAsserts h r)) (hid : r.id.length = 32)
    (hb : Expression.parse r.body.envelope = .ok r.body)
    (hexp : ∀ g, exp = some g → g = r.body.function) : Request.parse h e exp = .ok r := by
  obtain ⟨h1, h2, h3, h4⟩ := chain_lookups kv hsub hid hperm (k := KV_BODY) (by decide) (by decide)
    (by decide)
  unfold Request.parse Expression.parseExpecting
  simp only [h1, h2, h3, h4, Res.bind, hb]
  cases exp with
  | none => rfl
  | some g => simp [hexp g rfl]

theorem event_parse_of_shape {h : Hash} (kv : KVDistinct h) (ev : Event) (e : Env)
    (hsub : e.subject = idSubject h TAG_EVENT ev.id)
    (hperm : e.assertions.Perm (evAsserts h ev)) (hid : ev.id.length = 32) :
    Event.parse h e = .ok ev := by
  obtain ⟨h1, h2, h3, h4⟩ := chain_lookups kv hsub hid hperm (k := KV_CONTENT) (by decide)
    (by decide) (by decide)
  simp [Event.parse, h1, h2, h3, h4, Res.bind, newLeaf, extractText]

/-- the identifiers of a response are ARIDs (32 bytes) -/
def Response.idOk : Response → Prop
  | .success id _ => id.length = 32
  | .failure (some id) _ => id.length = 32
  | .failure none _ => True

theorem response_parse_of_shape {h : Hash} (kv : KVDistinct h) (v : Response) (e : Env)
    (hsub : e.subject = respSubject h v) (has : e.assertions = [respAssert h v])
    (hid : Response.idOk v) : Response.parse h e = .ok v := by
  have h1 := kv.beq_false (a := KV_RESULT) (b := KV_ERROR) (by decide) (by decide) (by decide)
  have h2 := kv.beq_false (a := KV_ERROR) (b := KV_RESULT) (by decide) (by decide) (by decide)
  cases v with
  | success id res =>
    have hr : assertionsWithPredicate e (newKnownValue h KV_RESULT) = [kvA h KV_RESULT res] := by
      rw [awp_eq_filter, has]; simp [respAssert, kvA, matchesPred_newAssertion]
    have he : assertionsWithPredicate e (newKnownValue h KV_ERROR) = [] := by
      rw [awp_eq_filter, has]; simp [respAssert, kvA, matchesPred_newAssertion, h1]
    have hs : subjectArid TAG_RESPONSE e = .ok id := subjectArid_idSubject hsub hid
    unfold Response.parse
    simp [hr, he, assertionWithPredicate, hs, ofp_single hr rfl, Res.bind]
  | failure id er =>
    have hr : assertionsWithPredicate e (newKnownValue h KV_RESULT) = [] := by
      rw [awp_eq_filter, has]; simp [respAssert, kvA, matchesPred_newAssertion, h2]
    have he : assertionsWithPredicate e (newKnownValue h KV_ERROR) = [kvA h KV_ERROR er] := by
      rw [awp_eq_filter, has]; simp [respAssert, kvA, matchesPred_newAssertion]
    unfold Response.parse
    cases id with
    | none =>
      simp only [respSubject] at hsub
      simp [hr, he, assertionWithPredicate, ofp_single he rfl, Res.bind, hsub, newLeaf,
        knownValueCbor, TAG_KNOWN_VALUE, KV_UNKNOWN]
    | some id =>
      simp only [respSubject, idSubject] at hsub
      have hid' : id.length = 32 := hid
      simp [hr, he, assertionWithPredicate, ofp_single he rfl, Res.bind, hsub, newLeaf,
        aridCbor, aridOfCbor?, hid']

theorem assertionWithPredicate_noPanic (e p : Env) : NoPanic (assertionWithPredicate e p) :=
  assertionWithPredicate_ne_panic e p

theorem extractTextOrDefault_noPanic (e p : Env) : NoPanic (extractTextOrDefault e p) := by
  intro s
  unfold extractTextOrDefault
  split
  · nofun
  · nofun
  · nofun
  · next x hx => exact absurd hx (extractOptionalTextObjectForPredicate_ne_panic e p x)

theorem extractOptionalDate_noPanic (e p : Env) : NoPanic (extractOptionalDate e p) := by
  intro s
  unfold extractOptionalDate
  split
  · nofun
  · split
    · split <;> nofun
    · nofun
  · nofun
  · next x hx => exact absurd hx (optionalObjectForPredicate_ne_panic e p x)

theorem expression_parse_noPanic (e : Env) : NoPanic (Expression.parse e) := by
  intro s
  unfold Expression.parse
  split
  · split <;> nofun
  · nofun

theorem expression_parseExpecting_noPanic (e : Env) (exp : Option Ident) :
    NoPanic (Expression.parseExpecting e exp) := by
  unfold Expression.parseExpecting
  refine Res.bind_ne_panic (expression_parse_noPanic e) fun x _ s => ?_
  split
  · split <;> nofun
  · nofun

theorem aridOfCbor_eq_some {c : Cbor} {id : Bytes} (hc : aridOfCbor? c = some id) :
    c = aridCbor id ∧ id.length = 32 := by
  unfold aridOfCbor? at hc
  split at hc
  · split at hc
    · next hcond =>
      obtain ⟨ht, hl⟩ := Bool.and_eq_true_iff.1 hcond
      cases hc
      exact ⟨by rw [aridCbor, eq_of_beq ht], eq_of_beq hl⟩
    · cases hc
  · cases hc

/-- `e` has the subject `#6.tag(#6.40012(id))` with a 32-byte `id` -/
def AridSubject (tag : Nat) (e : Env) (id : Bytes) : Prop :=
  ∃ d, e.subject = .leaf (.tagged tag (aridCbor id)) d ∧ id.length = 32

theorem subjectArid_sat (tag : Nat) (e : Env) : (subjectArid tag e).Sat (AridSubject tag e) := by
  unfold subjectArid
  split
  · next t inner d hs =>
    split
    · next ht =>
      split
      · next id hid =>
        obtain ⟨rfl, hl⟩ := aridOfCbor_eq_some hid
        exact ⟨d, by rw [hs, eq_of_beq ht], hl⟩
      · trivial
    · trivial
  · trivial
  · trivial

theorem request_parse_sat (h : Hash) (e : Env) (exp : Option Ident) :
    (Request.parse h e exp).Sat fun r => AridSubject TAG_REQUEST e r.id := by
  unfold Request.parse
  refine Res.bind_sat (objectForPredicate_ne_panic _ _) fun _ => ?_
  refine Res.bind_sat (expression_parseExpecting_noPanic _ _) fun _ => ?_
  refine (subjectArid_sat _ _).bind fun id _ hid => ?_
  refine Res.bind_sat (extractTextOrDefault_noPanic _ _) fun _ => ?_
  exact Res.bind_sat (extractOptionalDate_noPanic _ _) fun _ => hid

theorem event_parse_sat (h : Hash) (e : Env) :
    (Event.parse h e).Sat fun ev => AridSubject TAG_EVENT e ev.id := by
  unfold Event.parse
  refine Res.bind_sat (objectForPredicate_ne_panic _ _) fun ce => ?_
  split
  · refine (subjectArid_sat _ _).bind fun id _ hid => ?_
    refine Res.bind_sat (extractTextOrDefault_noPanic _ _) fun _ => ?_
    exact Res.bind_sat (extractOptionalDate_noPanic _ _) fun _ => hid
  · trivial

/-- what stands in the place of the identifier in the subject of a response envelope -/
def Response.idCbor : Response → Cbor
  | .success id _ => aridCbor id
  | .failure (some id) _ => aridCbor id
  | .failure none _ => knownValueCbor KV_UNKNOWN

/-- `e` has the subject of the envelope of `v`: `#6.40005(id)` with `id` an ARID of 32 bytes, or
'Unknown' for a failure without one -/
def Response.SubjectOf (e : Env) (v : Response) : Prop :=
  Response.idOk v ∧ ∃ d, e.subject = .leaf (.tagged TAG_RESPONSE (Response.idCbor v)) d

theorem response_parse_sat (h : Hash) (e : Env) :
    (Response.parse h e).Sat (Response.SubjectOf e) := by
  have hofp : ∀ {p : Env} {f : Env → Response}, (∀ x, Response.SubjectOf e (f x)) →
      ((objectForPredicate e p).bind fun x => .ok (f x)).Sat (Response.SubjectOf e) :=
    fun hf => Res.bind_sat (objectForPredicate_ne_panic e _) hf
  unfold Response.parse
  simp only []  -- inlines the `let`s `hasResult`, `hasError`: the first `split` is to meet the `if`
  split
  · trivial
  split
  · exact (subjectArid_sat _ _).bind fun id _ ⟨d, hs, hl⟩ => hofp fun r => ⟨hl, d, hs⟩
  split
  · split
    · next t inner d hs =>
      split
      · trivial
      next ht =>
      obtain rfl : t = TAG_RESPONSE := by simpa using ht
      -- an ARID in the place of the identifier
      have harid : ∀ id, aridOfCbor? inner = some id →
          ((objectForPredicate e (newKnownValue h KV_ERROR)).bind fun er =>
            .ok (Response.failure (some id) er)).Sat (Response.SubjectOf e) := fun id hid => by
        obtain ⟨rfl, hl⟩ := aridOfCbor_eq_some hid
        exact hofp fun er => ⟨hl, d, hs⟩
      split
      · next kt v =>
        split
        · next hkt =>
          split
          · next hv =>
            rw [eq_of_beq hkt, eq_of_beq hv] at hs
            exact hofp fun er => ⟨trivial, d, hs⟩
          · trivial
        · split
          · next id hid => exact harid id hid
          · trivial
      · split
        · next id hid => exact harid id hid
        · trivial
    · trivial
    · trivial
  · trivial

/-- an envelope whose subject is a leaf other than that of any response is rejected -/
theorem response_rejects_subject {h : Hash} {e : Env} {c : Cbor} {d : Digest}
    (hsub : e.subject = .leaf c d)
    (hc : ∀ v, Response.idOk v → c ≠ .tagged TAG_RESPONSE (Response.idCbor v)) :
    ∃ m, Response.parse h e = .err m := by
  refine (response_parse_sat h e).err_of_not_ok fun v hv => ?_
  obtain ⟨hid, d', hs⟩ := (response_parse_sat h e).of_ok hv
  exact hc v hid (Env.leaf.inj (hsub ▸ hs)).1

/-- what `decode_encode` (C05) asks of an envelope -/
def Sendable (h : Hash) (e : Env) : Prop := Inv h e ∧ EncShape e ∧ Encodable e

theorem sendable_leaf (h : Hash) {c : Cbor} (hc : c.Valid) : Sendable h (newLeaf h c) :=
  ⟨Inv.newLeaf h c, trivial, hc⟩

theorem sendable_kvA {h : Hash} {k : Nat} {o : Env} (hk : k < 2 ^ 64) (ho : Sendable h o) :
    Sendable h (kvA h k o) ∧ (kvA h k o).slotOk = true :=
  ⟨⟨Inv.newAssertion (Inv.newKnownValue h k) ho.1, ⟨trivial, ho.2.1⟩, hk, ho.2.2⟩, rfl⟩

theorem sendable_rebuild {h : Hash} {s : Env} {as : List Env} (hs : Sendable h s) (hasc : AscDigests as)
    (hl : ∀ a ∈ as, Sendable h a ∧ a.slotOk = true) (hlen : as.length + 1 < 2 ^ 64) :
    Sendable h (rebuild h s as) := by
  cases as with
  | nil => exact hs
  | cons a t =>
    exact ⟨AW.rebuild_inv hs.1 (fun x hx => (hl x hx).1.1) hasc fun x hx => (hl x hx).2,
      (EncShape_node ..).2 ⟨hs.2.1, fun x hx => (hl x hx).1.2.1⟩,
      (Encodable_node ..).2 ⟨hs.2.2, fun x hx => (hl x hx).1.2.2, hlen⟩⟩

theorem sendable_built {h : Hash} {s : Env} {l : List Env} (hs : Sendable h s)
    (hl : ∀ a ∈ l, Sendable h a ∧ a.slotOk = true) (hlen : l.length + 1 < 2 ^ 64) :
    Sendable h (built h s l) := by
  refine sendable_rebuild hs (foldl_normAdd_asc l List.Pairwise.nil)
    (fun a ha => hl a ((mem_foldl_normAdd_sub l ha).resolve_left List.not_mem_nil)) ?_
  have := foldl_normAdd_length_le l []
  simp only [List.length_nil] at this
  omega

theorem dateCbor_valid {d : Int} (hd : -(2 ^ 64 : Int) ≤ d ∧ d < 2 ^ 64) : (dateCbor d).Valid := by
  unfold dateCbor
  split <;> simp only [Cbor.Valid, TAG_DATE] <;> omega

theorem aridTagged_valid {tag : Nat} {id : Bytes} (ht : tag < 2 ^ 64) (hid : id.length = 32) :
    (Cbor.tagged tag (aridCbor id)).Valid := by
  simp only [aridCbor, Cbor.Valid, TAG_ARID, hid]; omega

/-- the note (when present) is valid UTF-8 of a length that fits, the date fits in 64 bits -/
def MetaEncodable (note : Bytes) (date : Option Int) : Prop :=
  (Cbor.text note).Valid ∧ ∀ d, date = some d → -(2 ^ 64 : Int) ≤ d ∧ d < 2 ^ 64

theorem mem_metaAsserts_iff {h : Hash} {note : Bytes} {date : Option Int} {a : Env} :
    a ∈ metaAsserts h note date ↔
      (note ≠ [] ∧ a = kvA h KV_NOTE (newLeaf h (.text note))) ∨
      (∃ d, date = some d ∧ a = kvA h KV_DATE (newLeaf h (dateCbor d))) := by
  unfold metaAsserts
  cases note <;> cases date <;> simp

theorem metaAsserts_length (h : Hash) (note : Bytes) (date : Option Int) :
    (metaAsserts h note date).length =
      (if note = [] then 0 else 1) + (if date.isSome then 1 else 0) := by
  unfold metaAsserts
  cases note <;> cases date <;> simp

/-- the envelope of a request / event (`k`: 'body' / 'content') -/
theorem chain_sendable {h : Hash} {tag k : Nat} {id note : Bytes} {date : Option Int} {o : Env}
    (ht : tag < 2 ^ 64) (hk : k < 2 ^ 64) (hid : id.length = 32) (ho : Sendable h o)
    (hm : MetaEncodable note date) :
    Sendable h (built h (idSubject h tag id) (kvA h k o :: metaAsserts h note date)) := by
  refine sendable_built (sendable_leaf h (aridTagged_valid ht hid)) (fun a ha => ?_) ?_
  · rcases List.mem_cons.1 ha with rfl | ha
    · exact sendable_kvA hk ho
    · rcases mem_metaAsserts_iff.1 ha with ⟨_, rfl⟩ | ⟨d, hd, rfl⟩
      · exact sendable_kvA (by decide) (sendable_leaf h hm.1)
      · exact sendable_kvA (by decide) (sendable_leaf h (dateCbor_valid (hm.2 d hd)))
  · rw [List.length_cons, metaAsserts_length]
    split <;> split <;> omega

def Response.payload : Response → Env
  | .success _ r => r
  | .failure _ er => er

theorem response_sendable {h : Hash} {v : Response} (hid : Response.idOk v)
    (hp : Sendable h (Response.payload v)) :
    Sendable h (nodeOf h (respSubject h v) [respAssert h v]) := by
  have hs : Sendable h (respSubject h v) := by
    rcases v with _ | ⟨_ | _, _⟩
    · exact sendable_leaf h (aridTagged_valid (by decide) hid)
    · exact sendable_leaf h (by simp only [knownValueCbor, Cbor.Valid, TAG_RESPONSE, KV_UNKNOWN]; omega)
    · exact sendable_leaf h (aridTagged_valid (by decide) hid)
  have ha : Sendable h (respAssert h v) ∧ (respAssert h v).slotOk = true := by
    cases v <;> exact sendable_kvA (by decide) hp
  exact sendable_rebuild (as := [_]) hs (List.pairwise_singleton _ _)
    (fun a hx => List.mem_singleton.1 hx ▸ ha) (by simp)

/-- the identifier fits the dCBOR data model -/
def IdentValid : Ident → Prop
  | .known v => v < 2 ^ 64
  | .named n => (Cbor.text n).Valid

theorem identCbor_valid {tag : Nat} {i : Ident} (ht : tag < 2 ^ 64) (hi : IdentValid i) :
    (identCbor tag i).Valid := by
  cases i with
  | known v => exact ⟨ht, hi⟩
  | named n => exact ⟨ht, hi⟩

theorem exprEnv_sendable {h : Hash} {f : Ident} {ps : List (Ident × Env)} (hf : IdentValid f)
    (hv : ∀ pv ∈ ps, IdentValid pv.1 ∧ Sendable h pv.2) (hlen : ps.length + 1 < 2 ^ 64) :
    Sendable h (exprEnv h f ps) := by
  refine sendable_built (sendable_leaf h (identCbor_valid (by decide) hf)) (fun a ha => ?_)
    (by simpa using hlen)
  obtain ⟨pv, hpv, rfl⟩ := List.mem_map.1 ha
  obtain ⟨hp, hi, hs, he⟩ := hv pv hpv
  exact ⟨⟨Inv.newAssertion (Inv.newLeaf h _) hi, ⟨trivial, hs⟩, identCbor_valid (by decide) hp, he⟩, rfl⟩

/-- the documented shape of a request / event envelope (`k`: 'body' / 'content') -/
theorem chain_shape {h : Hash} {tag k : Nat} {id note : Bytes} {date : Option Int} {o e : Env}
    (he : e = built h (idSubject h tag id) (kvA h k o :: metaAsserts h note date))
    (hd : DistinctDigests (kvA h k o :: metaAsserts h note date)) :
    e.subject = idSubject h tag id ∧
    (∀ a, a ∈ e.assertions ↔ a = kvA h k o ∨
      (note ≠ [] ∧ a = kvA h KV_NOTE (newLeaf h (.text note))) ∨
      (∃ d, date = some d ∧ a = kvA h KV_DATE (newLeaf h (dateCbor d)))) ∧
    e.assertions.length = 1 + (if note = [] then 0 else 1) + (if date.isSome then 1 else 0) ∧
    AscDigests e.assertions ∧
    e.digest = h.ofDigests (e.subject.digest :: e.assertions.map Env.digest) := by
  subst he
  have hs := idSubject_notNode h tag id
  have hp := built_perm (h := h) hs hd
  refine ⟨built_subject h _ hs, fun a => ?_, ?_, built_asc h _ hs, ?_⟩
  · rw [hp.mem_iff, List.mem_cons, mem_metaAsserts_iff]
  · rw [hp.length_eq, List.length_cons, metaAsserts_length]; omega
  · rw [built_subject h _ hs, built_assertions h _ hs]
    exact rebuild_digest h (foldl_normAdd_ne_nil _ (Or.inr (List.cons_ne_nil _ _)))

namespace Toy

/-- the toy hash: the big-endian value of the input (digests are not even 256-bit) -/
def h0 : Hash := ⟨fun b => ⟨beNat b⟩⟩

instance (l : List Env) : Decidable (DistinctDigests l) := by
  unfold DistinctDigests; infer_instance

theorem h0_kv_mod_ne : ∀ a ∈ kvList, ∀ b ∈ kvList, a ≠ b →
    (newKnownValue h0 a).digest.val % 2 ^ 256 ≠ (newKnownValue h0 b).digest.val % 2 ^ 256 := by
  decide +kernel

theorem kv0 : KVDistinct h0 :=
  ⟨fun a ha b hb hab heq => h0_kv_mod_ne a ha b hb hab (by rw [heq])⟩

/-- with the toy hash the digest of an assertion is `pred * 2^256 + obj` (both reduced modulo
`2^256`), so the predicate's digest can be read off it -/
theorem h0_assertion_digest (p o : Env) :
    (newAssertion h0 p o).digest.val / 2 ^ 256 = p.digest.val % 2 ^ 256 := by
  have hc : catDigests [p.digest, o.digest] = p.digest.bytes ++ o.digest.bytes := by
    simp [catDigests]
  show (h0.ofDigests [p.digest, o.digest]).val / _ = _
  simp only [Hash.ofDigests, h0]
  rw [hc, beNat_append, Digest.bytes, Digest.bytes, beNat_beBytes, beNat_beBytes, beBytes_length,
    (by decide : (256 : Nat) ^ 32 = 2 ^ 256), Nat.mul_comm, Nat.mul_add_div (Nat.two_pow_pos _),
    Nat.div_eq_of_lt (Nat.mod_lt _ (Nat.two_pow_pos _)), Nat.add_zero]

/-- the toy hash even satisfies the quantified form: assertions under different known-value
predicates of `kvList` never collide, whatever the objects -/
theorem h0_kvA_ne : ∀ a ∈ kvList, ∀ b ∈ kvList, a ≠ b → ∀ o1 o2 : Env,
    (kvA h0 a o1).digest ≠ (kvA h0 b o2).digest := fun a ha b hb hab o1 o2 heq =>
  h0_kv_mod_ne a ha b hb hab (by
    rw [← h0_assertion_digest _ o1, ← h0_assertion_digest _ o2]; exact congrArg (·.val / _) heq)

theorem h0_chain_distinct {k : Nat} (hk : k ∈ kvList) (hkn : k ≠ KV_NOTE) (hkd : k ≠ KV_DATE)
    (o : Env) (note : Bytes) (date : Option Int) :
    DistinctDigests (kvA h0 k o :: metaAsserts h0 note date) := by
  have h1 := h0_kvA_ne k hk KV_NOTE (by decide) hkn
  have h2 := h0_kvA_ne k hk KV_DATE (by decide) hkd
  have h3 := h0_kvA_ne KV_NOTE (by decide) KV_DATE (by decide) (by decide)
  unfold DistinctDigests metaAsserts
  cases note.isEmpty <;> cases date <;> simp [h1, h2, h3]

/-- every request / event meets the per-instance hypothesis under the toy hash -/
theorem h0_req_distinct (r : Request) : DistinctDigests (reqAsserts h0 r) :=
  h0_chain_distinct (by decide) (by decide) (by decide) _ _ _

theorem h0_ev_distinct (ev : Event) : DistinctDigests (evAsserts h0 ev) :=
  h0_chain_distinct (by decide) (by decide) (by decide) _ _ _

def id0 : Bytes := List.replicate 32 7

/-- `❰1❱ [❰2❱: 2, ❰"rhs"❱: 3]` with the first parameter given twice -/
def params0 : List (Ident × Env) :=
  [(.known 2, newLeaf h0 (.uint 2)), (.named [114, 104, 115], newLeaf h0 (.uint 3)),
   (.known 2, newLeaf h0 (.uint 2))]

def x0 : Expression := ⟨.known 1, exprEnv h0 (.known 1) params0⟩

def r0 : Request := ⟨x0, id0, [104, 105], some (-5)⟩
def r1 : Request := ⟨Expression.new h0 (.named [102]), id0, [], none⟩

def ev0 : Event := ⟨[99], id0, [110], some 1700000000⟩

/-! a hash that is collision-free on the known values but maps every assertion (a 64-byte
input) to the same digest: shows what the per-instance hypothesis is for -/

def hC : Hash := ⟨fun b => if b.length = 64 then ⟨0⟩ else ⟨beNat b⟩⟩

theorem kvC : KVDistinct hC := ⟨by decide +kernel⟩

theorem hC_kvA_digest (k : Nat) (o : Env) : (kvA hC k o).digest = ⟨0⟩ := by
  show hC.ofDigests [_, _] = _
  simp [Hash.ofDigests, hC, catDigests_length]

/-- a request with a note, no date -/
def rC : Request := ⟨Expression.new hC (.known 1), id0, [104, 105], none⟩

theorem rC_envelope : Request.toEnvelope hC rC =
    .ok (rebuild hC (idSubject hC TAG_REQUEST id0) [kvA hC KV_BODY rC.body.envelope]) := by
  have : (reqAsserts hC rC).foldl normAdd [] = [kvA hC KV_BODY rC.body.envelope] := by
    simp [reqAsserts, metaAsserts, rC, normAdd, sortByDigest_singleton, hC_kvA_digest]
  rw [request_toEnvelope_eq, built, this]
  rfl

end Toy

end ExprL
end EnvVerif
