/-
  Lemmas/RecipientLaws.lean — the idealised interfaces that the theorems of C10
  (public-key recipients) and C11 (SSKR) are relative to, and toy instances for which the
  laws are *proved* (so the hypotheses are satisfiable and the examples compute).

  `KemLaws K S`: `K : Kem` is the opening side used by the model (`Model/Recipient.lean`),
  `S : Sealer` the sealing side; key ids double as public-key ids.
  `SskrLaws S shares quorum secret ident`: `shares` are the shares (all groups, flattened) of
  *one* split of `secret` under a policy whose verdict on a list of shares is `quorum`.
  (`seal`, `unseal` are reserved words of this Lean version, hence `sealTo`, `unsealMsg`.)
-/
import EnvVerif.Model.Recipient
import EnvVerif.Lemmas.Laws
namespace EnvVerif
open Env

/-- the sealing side: `sealTo k p r` = the `SealedMessage::new_opt(p, recipient k, ..)` made
with the sender's randomness `r` -/
structure Sealer where
  sealTo : Nat → Bytes → Nat → Cbor

structure KemLaws (K : Kem) (S : Sealer) : Prop where
  /-- tag 40019 is all that the model's `recipients()` asks of a `SealedMessage` (the two inner
  elements are not inspected) -/
  tagged : ∀ k p r, ∃ x, S.sealTo k p r = .tagged TAG_SEALED_MESSAGE x
  scheme : ∀ k p r, K.schemeOfSealed (S.sealTo k p r) = K.schemeOfKey k
  unseal_seal : ∀ k p r, K.unsealMsg k (S.sealTo k p r) = some p
  unseal_only : ∀ k k' p r q, K.unsealMsg k' (S.sealTo k p r) = some q → k' = k

structure SskrLaws (S : Sskr) (shares : List Cbor) (quorum : List Cbor → Bool) (secret : Bytes)
    (ident : Nat) : Prop where
  /-- every share is a readable `SSKRShare` holding at least the 5 metadata bytes -/
  shape : ∀ s ∈ shares, ∃ b, s = .tagged TAG_SSKR_SHARE (.bytes b) ∧ 5 ≤ b.length
  ident_eq : ∀ s ∈ shares, S.identifier s = ident
  quorum_nil : quorum [] = false
  combine_nodup : ∀ sub, sub.Nodup → (∀ s ∈ sub, s ∈ shares) →
    S.combine sub = if quorum sub then some secret else none
  /-- a repeated share is refused (`DuplicateMemberIndex`).  Like `combine_nodup` it speaks of
  lists drawn from this one split: of `combine` on a list mixing two splits nothing is assumed,
  which is why `join_splits` (C11) asks different splits to have different identifiers -/
  combine_dup : ∀ sub, ¬ sub.Nodup → (∀ s ∈ sub, s ∈ shares) → S.combine sub = none

namespace SskrLaws
variable {S : Sskr} {shares : List Cbor} {quorum : List Cbor → Bool} {secret : Bytes} {ident : Nat}

theorem combine_iff (L : SskrLaws S shares quorum secret ident) (sub : List Cbor)
    (hs : ∀ s ∈ sub, s ∈ shares) :
    (S.combine sub = some secret ↔ (sub.Nodup ∧ quorum sub = true)) ∧
      (¬ (sub.Nodup ∧ quorum sub = true) → S.combine sub = none) := by
  by_cases hn : sub.Nodup
  · rw [L.combine_nodup sub hn hs]
    cases quorum sub <;> simp [hn]
  · rw [L.combine_dup sub hn hs]
    simp [hn]

end SskrLaws

namespace ToyRec
open ToyDeps

/-- sealed message = `#6.40019([recipient, randomness, plaintext])` -/
def sealer : Sealer := ⟨fun k p r => .tagged TAG_SEALED_MESSAGE (.array [.uint k, .uint r, .bytes p])⟩

/-- two encapsulation schemes: the parity of the key id -/
def kem : Kem where
  unsealMsg key s :=
    match s with
    | .tagged t (.array [.uint k, .uint _, .bytes p]) =>
      if t == TAG_SEALED_MESSAGE && k == key then some p else none
    | _ => none
  schemeOfSealed s :=
    match s with
    | .tagged _ (.array (.uint k :: _)) => k % 2
    | _ => 2
  schemeOfKey k := k % 2

theorem kem_laws : KemLaws kem sealer where
  tagged := fun _ _ _ => ⟨_, rfl⟩
  scheme := fun _ _ _ => rfl
  unseal_seal := by
    intro k p r
    simp [kem, sealer]
  unseal_only := by
    intro k k' p r q hq
    simp only [kem, sealer, beq_self_eq_true, Bool.true_and, beq_iff_eq] at hq
    split at hq
    · rename_i hk; exact hk.symm
    · cases hq

/-! #### SSKR: two-level threshold sharing with the secret in the clear -/

structure ShareFields where
  ident : Nat
  gt : Nat        -- group threshold
  gi : Nat        -- group index
  mt : Nat        -- member threshold of the group
  mi : Nat        -- member index
  secret : Bytes
  deriving DecidableEq, Repr

/-- a number as a byte string (its length) -/
def num (n : Nat) : Bytes := List.replicate n 0

/-- five metadata bytes (unused by the toy), then the framed fields, then the secret -/
def shareBytes (f : ShareFields) : Bytes :=
  0 :: 0 :: 0 :: 0 :: 0 :: pack (num f.ident) (pack (num f.gt) (pack (num f.gi) (pack (num f.mt)
    (pack (num f.mi) f.secret))))

def share (f : ShareFields) : Cbor := .tagged TAG_SSKR_SHARE (.bytes (shareBytes f))

def fieldsOfBytes : Bytes → Option ShareFields
  | _ :: _ :: _ :: _ :: _ :: b =>
    let u1 := unpack b
    let u2 := unpack u1.2
    let u3 := unpack u2.2
    let u4 := unpack u3.2
    let u5 := unpack u4.2
    some ⟨u1.1.length, u2.1.length, u3.1.length, u4.1.length, u5.1.length, u5.2⟩
  | _ => none

def fields : Cbor → Option ShareFields
  | .tagged _ (.bytes b) => fieldsOfBytes b
  | _ => none

theorem fields_share (f : ShareFields) : fields (share f) = some f := by
  cases f
  simp [fields, share, shareBytes, fieldsOfBytes, unpack_pack, num]

/-- the policy on parsed shares: at least `gt` groups reach their member threshold -/
def quorumF (fs : List ShareFields) : Bool :=
  match fs with
  | [] => false
  | f :: _ =>
    decide (f.gt ≤ ((fs.map (·.gi)).eraseDups.filter fun g =>
      fs.any fun x => x.gi == g && decide (x.mt ≤ (fs.filter (·.gi == g)).length)).length)

def quorum (sub : List Cbor) : Bool := quorumF (sub.filterMap fields)

def combine (sub : List Cbor) : Option Bytes :=
  let fs := sub.filterMap fields
  match fs with
  | [] => none
  | f :: _ =>
    if fs.length = sub.length ∧
        (∀ x ∈ fs, x.ident = f.ident ∧ x.gt = f.gt ∧ x.secret = f.secret) ∧
        (sub.filterMap shareBytes?).Nodup ∧ quorumF fs = true
    then some f.secret else none

def sskr : Sskr where
  combine := combine
  identifier s := match fields s with
    | some f => f.ident
    | none => 0

/-- a policy: the group threshold and, per group, (member threshold, member count) -/
structure Spec where
  groupThreshold : Nat
  groups : List (Nat × Nat)

def shares (ident : Nat) (spec : Spec) (secret : Bytes) : List Cbor :=
  spec.groups.zipIdx.flatMap fun g =>
    (List.range g.1.2).map fun mi => share ⟨ident, spec.groupThreshold, g.2, g.1.1, mi, secret⟩

theorem mem_shares {ident : Nat} {spec : Spec} {secret : Bytes} {s : Cbor}
    (hs : s ∈ shares ident spec secret) :
    ∃ f : ShareFields, s = share f ∧ f.ident = ident ∧ f.gt = spec.groupThreshold ∧ f.secret = secret := by
  simp only [shares, List.mem_flatMap, List.mem_map] at hs
  obtain ⟨g, _, mi, _, rfl⟩ := hs
  exact ⟨_, rfl, rfl, rfl, rfl⟩

theorem nodup_bytes_iff {ident : Nat} {spec : Spec} {secret : Bytes} : ∀ (l : List Cbor),
    (∀ s ∈ l, s ∈ shares ident spec secret) → ((l.filterMap shareBytes?).Nodup ↔ l.Nodup)
  | [], _ => by simp
  | s :: l, hl => by
    obtain ⟨f, rfl, _⟩ := mem_shares (hl _ List.mem_cons_self)
    have ih := nodup_bytes_iff l (fun s hs => hl s (List.mem_cons_of_mem _ hs))
    have hm : shareBytes f ∈ l.filterMap shareBytes? ↔ share f ∈ l := by
      constructor
      · intro hb
        obtain ⟨s', hs', hb'⟩ := List.mem_filterMap.1 hb
        obtain ⟨f', rfl, _⟩ := mem_shares (hl s' (List.mem_cons_of_mem _ hs'))
        simp only [share, shareBytes?, Option.some.injEq] at hb'
        rw [share, ← hb']
        exact hs'
      · intro hs
        exact List.mem_filterMap.2 ⟨_, hs, rfl⟩
    simp only [List.filterMap_cons, share, shareBytes?, List.nodup_cons, ih]
    rw [← share, hm]

theorem filterMap_fields_of_shares {ident : Nat} {spec : Spec} {secret : Bytes} :
    ∀ (sub : List Cbor), (∀ s ∈ sub, s ∈ shares ident spec secret) →
      (sub.filterMap fields).length = sub.length ∧
      ∀ x ∈ sub.filterMap fields, x.ident = ident ∧ x.gt = spec.groupThreshold ∧ x.secret = secret
  | [], _ => by simp
  | s :: sub, hs => by
    obtain ⟨f, rfl, h1, h2, h3⟩ := mem_shares (hs _ List.mem_cons_self)
    obtain ⟨ih1, ih2⟩ := filterMap_fields_of_shares sub (fun s h => hs s (List.mem_cons_of_mem _ h))
    simp only [List.filterMap_cons, fields_share, List.length_cons, ih1, List.mem_cons, true_and]
    rintro x (rfl | hx)
    · exact ⟨h1, h2, h3⟩
    · exact ih2 x hx

theorem sskr_laws (ident : Nat) (spec : Spec) (secret : Bytes) :
    SskrLaws sskr (shares ident spec secret) quorum secret ident where
  shape := by
    intro s hs
    obtain ⟨f, rfl, _⟩ := mem_shares hs
    exact ⟨_, rfl, by simp [shareBytes]⟩
  ident_eq := by
    intro s hs
    obtain ⟨f, rfl, hf, _⟩ := mem_shares hs
    simp [sskr, fields_share, hf]
  quorum_nil := rfl
  combine_nodup := by
    intro sub hn hs
    obtain ⟨hlen, hall⟩ := filterMap_fields_of_shares sub hs
    have hnb := (nodup_bytes_iff sub hs).2 hn
    show combine sub = _
    unfold combine quorum
    cases hfs : sub.filterMap fields with
    | nil => rfl
    | cons f fs =>
      rw [hfs] at hlen hall
      have hf := hall f List.mem_cons_self
      have hcons : ∀ x ∈ f :: fs, x.ident = f.ident ∧ x.gt = f.gt ∧ x.secret = f.secret := by
        intro x hx
        obtain ⟨a, b, c⟩ := hall x hx
        exact ⟨a.trans hf.1.symm, b.trans hf.2.1.symm, c.trans hf.2.2.symm⟩
      dsimp only
      cases hq : quorumF (f :: fs) with
      | false =>
        rw [if_neg (by rintro ⟨_, _, _, hx⟩; cases hx)]
        simp
      | true =>
        rw [if_pos ⟨hlen, hcons, hnb, rfl⟩]
        simp [hf.2.2]
  combine_dup := by
    intro sub hn hs
    have hnb : ¬ (sub.filterMap shareBytes?).Nodup := fun h => hn ((nodup_bytes_iff sub hs).1 h)
    show combine sub = none
    unfold combine
    cases hfs : sub.filterMap fields with
    | nil => rfl
    | cons f fs => simp [hnb]

/-- a hash with 32-byte values that the kernel can evaluate and that separates the sample
envelopes of the examples -/
def hash : Hash := ⟨fun b => ⟨(b.foldl (fun acc x => acc * 31 + x.toNat + 1) 7) % 2 ^ 256⟩⟩

theorem hash_valid (b : Bytes) : (hash.H b).Valid := Nat.mod_lt _ (by decide)

end ToyRec
end EnvVerif
