/-
  Lemmas/IdentityLemmas.lean — under the invariant, eliding a target set changes the tokens of
  the structural image when some hit is not already elided (`TokDiff`: equal up to a position
  where the discriminators differ), and nothing otherwise (for C14); the sample envelopes of
  C14's examples.
-/
import EnvVerif.Lemmas.ProofLemmas
import EnvVerif.Lemmas.ElideLemmas
namespace EnvVerif
namespace AW
open Env

def TokDiff (l1 l2 : List (Option UInt8 × Digest)) : Prop :=
  ∃ pre t1 t2 s1 s2, l1 = pre ++ t1 :: s1 ∧ l2 = pre ++ t2 :: s2 ∧ t1.1 ≠ t2.1

theorem TokDiff.tokB_ne {l1 l2 : List (Option UInt8 × Digest)} (hd : TokDiff l1 l2) :
    l1.map tokB ≠ l2.map tokB := by
  obtain ⟨pre, t1, t2, s1, s2, h1, h2, hne⟩ := hd
  intro h
  rw [h1, h2] at h
  simp only [List.map_append, List.map_cons] at h
  have := List.append_cancel_left h
  simp only [List.cons.injEq, tokB, Prod.mk.injEq] at this
  exact hne this.1.1

theorem TokDiff.embed {l1 l2 : List (Option UInt8 × Digest)} (hd : TokDiff l1 l2)
    (p q1 q2 : List (Option UInt8 × Digest)) : TokDiff (p ++ l1 ++ q1) (p ++ l2 ++ q2) := by
  obtain ⟨pre, t1, t2, s1, s2, h1, h2, hne⟩ := hd
  exact ⟨p ++ pre, t1, t2, s1 ++ q1, s2 ++ q2, by simp [h1], by simp [h2], hne⟩

def HitNE (T : Digest → Bool) (l : List Env) : Prop :=
  ∃ x ∈ l, T x.digest = true ∧ x.isElided = false

theorem HitNE.append_iff {T : Digest → Bool} {l1 l2 : List Env} :
    HitNE T (l1 ++ l2) ↔ HitNE T l1 ∨ HitNE T l2 := by
  simp only [HitNE, List.mem_append, or_and_right, exists_or]

theorem HitNE.cons_iff {T : Digest → Bool} {a : Env} {l : List Env} :
    HitNE T (a :: l) ↔ (T a.digest = true ∧ a.isElided = false) ∨ HitNE T l := by
  simp only [HitNE, List.mem_cons, or_and_right, exists_or, exists_eq_left]

/-- what the induction proves about one element -/
def ElideGoal (T : Digest → Bool) (e r : Env) : Prop :=
  r.digest = e.digest ∧ (¬ HitNE T (elements e) → r = e) ∧
    (HitNE T (elements e) → TokDiff ((elements e).map tok) ((elements r).map tok))

def ElideGoalList (T : Digest → Bool) (as rs : List Env) : Prop :=
  rs.map Env.digest = as.map Env.digest ∧ (¬ HitNE T (elementsList as) → rs = as) ∧
    (HitNE T (elementsList as) → TokDiff ((elementsList as).map tok) ((elementsList rs).map tok))

theorem disc_ne_of_not_elided {x : Env} (hx : x.isElided = false) : disc x ≠ some 1 := by
  cases x <;> first | (intro h; cases h; done) | cases hx

/-- a hit root is replaced by its digest: a change exactly when it was not elided already -/
theorem elideGoal_root_hit {T : Digest → Bool} {e : Env} (hT : T e.digest = true) :
    ElideGoal T e (.elided e.digest) := by
  cases he : e.isElided with
  | true =>
    have hee : Env.elided e.digest = e := by cases e <;> first | rfl | cases he
    rw [hee]
    refine ⟨rfl, fun _ => rfl, ?_⟩
    rintro ⟨x, hx, _, hxe⟩
    rw [← hee] at hx
    cases List.mem_singleton.1 hx
    cases hxe
  | false =>
    refine ⟨rfl, fun hn => absurd ⟨e, self_mem_elements e, hT, he⟩ hn, fun _ => ?_⟩
    exact ⟨[], tok e, (some 1, e.digest), (e.children.flatMap elements).map tok, [],
      by rw [elements_eq]; rfl, rfl, disc_ne_of_not_elided he⟩

theorem tok_mapKids (g : Env → Env) (e : Env) : tok (e.mapKids g) = tok e := by
  cases e <;> rfl

/-- the first hit decides: before it nothing changes -/
theorem goal_flatMap {T : Digest → Bool} {g : Env → Env} : ∀ {cs : List Env},
    (∀ c ∈ cs, ElideGoal T c (g c)) →
    (¬ HitNE T (cs.flatMap elements) → cs.map g = cs) ∧
      (HitNE T (cs.flatMap elements) →
        TokDiff ((cs.flatMap elements).map tok) (((cs.map g).flatMap elements).map tok))
  | [], _ => ⟨fun _ => rfl, fun ⟨_, hx, _⟩ => nomatch hx⟩
  | a :: as, hg => by
    have ha := hg a List.mem_cons_self
    have ih := goal_flatMap (g := g) fun c hc => hg c (List.mem_cons_of_mem _ hc)
    simp only [List.flatMap_cons, List.map_cons, List.map_append, HitNE.append_iff, not_or]
    refine ⟨fun hn => by rw [ha.2.1 hn.1, ih.1 hn.2], fun hh => ?_⟩
    by_cases hha : HitNE T (elements a)
    · simpa using (ha.2.2 hha).embed [] ((as.flatMap elements).map tok)
        (((as.map g).flatMap elements).map tok)
    · rw [ha.2.1 hha]
      simpa using (ih.2 (hh.resolve_left hha)).embed ((elements a).map tok) [] []

/-- the pure traversal (`elideP`, which `elideSet` computes under the invariant) -/
theorem elideP_goal (T : Digest → Bool) (e : Env) :
    ElideGoal T e (elideP T false (fun x => .elided x.digest) e) := by
  induction e using Env.induct_kids with
  | H e ih =>
    rw [elideP_eq]
    by_cases hT : T e.digest = true
    · rw [if_pos (by simpa using hT)]; exact elideGoal_root_hit hT
    · rw [if_neg (by simpa using hT)]
      have hg := goal_flatMap ih
      refine ⟨Env.mapKids_digest .., ?_, ?_⟩ <;>
        rw [elements_eq e, HitNE.cons_iff, or_iff_right (fun hx => hT hx.1)]
      · exact fun hn => Env.mapKids_eq_self_of_children (hg.1 hn)
      · intro hh
        rw [elements_eq (e.mapKids _), Env.mapKids_children, List.map_cons, List.map_cons, tok_mapKids]
        simpa using (hg.2 hh).embed [tok e] [] []

section
variable (h : Hash) (A : Aead) (Z : Deflate) (T : Digest → Bool)

theorem elideSetList_goal : (as : List Env) → (rs : List Env) → WFList h as → CanonList as →
    elideSetList h A Z T false .elide as = .ok rs → ElideGoalList T as rs := by
  intro as rs hw hc hr
  rw [elideSetList_eq_map h A Z T false .elide (g := elideP T false fun x => .elided x.digest)
    fun a ha => ⟨elideSet_eq h A Z T false .elide ⟨(WFList_iff h as).1 hw a ha, (CanonList_iff as).1 hc a ha⟩
      fun _ _ _ _ => trivial, (elideP_goal T a).1⟩] at hr
  cases hr
  have hg := goal_flatMap (cs := as) fun a _ => elideP_goal T a
  rw [← elementsList_eq, ← elementsList_eq] at hg
  exact ⟨by rw [List.map_map]; exact List.map_congr_left fun a _ => (elideP_goal T a).1, hg.1, hg.2⟩

end

theorem elideSet_diff (h : Hash) (A : Aead) (Z : Deflate) (T : Digest → Bool) (e r : Env)
    (hi : Inv h e) (hr : elideSet h A Z T false .elide e = .ok r) :
    r.digest = e.digest ∧ (¬ HitNE T (elements e) → r = e) ∧
      (HitNE T (elements e) → TokDiff (tokens e) (tokens r)) := by
  rw [elideSet_eq h A Z T false .elide hi fun _ _ _ _ => trivial] at hr
  cases hr
  rw [tokens_eq_elements, tokens_eq_elements]
  exact elideP_goal T e

namespace Toy

/-- walked digests with first bytes 3, 3, (elided) 0, 4 -/
def exHi : Env :=
  .wrapped (.assertion (.elided ⟨5⟩) (.leaf (.uint 0) ⟨4 * 2 ^ 248 + 9⟩) ⟨3 * 2 ^ 248 + 1⟩)
    ⟨3 * 2 ^ 248 + 2⟩

/-- a Bool test of `PlainHeadsOk`, to be evaluated on concrete envelopes -/
theorem plainHeadsOk_of_check {e : Env} (he : (elements e).all (fun x => x.isObscured ||
      (match x.digest.bytes.head? with | some c => c != 0 && c != 1 && c != 2 | none => true)) = true) :
    PlainHeadsOk e := by
  intro x hx hob c hc
  have := List.all_eq_true.1 he x hx
  rw [hob, hc] at this
  simp only [Bool.false_or, Bool.and_eq_true, bne_iff_ne, ne_eq] at this
  exact ⟨this.1.1, this.1.2, this.2⟩

theorem exHi_ok : PlainHeadsOk exHi ∧ DigestsValid exHi ∧ (elements exHi).length = 4 :=
  ⟨plainHeadsOk_of_check (by decide +kernel), by unfold DigestsValid Digest.Valid; decide +kernel, rfl⟩

/-- toy hash whose digests all have first byte 3 -/
def hHi : Hash := ⟨fun b => ⟨3 * 2^248 + b.length⟩⟩
def exW : Env := newWrapped hHi (newLeaf hHi (.uint 1))
def exWr : Env := newWrapped hHi (.elided (newLeaf hHi (.uint 1)).digest)

theorem exW_inv : Inv hHi exW := (Inv.newLeaf hHi _).newWrapped

theorem exW_elide (A : Aead) (Z : Deflate) :
    elideSet hHi A Z (fun d => d == (newLeaf hHi (.uint 1)).digest) false .elide exW = .ok exWr := by
  rw [elideSet_eq hHi A Z _ false .elide exW_inv fun _ _ _ _ => trivial]
  rfl

theorem exW_heads : PlainHeadsOk exW ∧ PlainHeadsOk exWr :=
  ⟨plainHeadsOk_of_check (by decide +kernel), plainHeadsOk_of_check (by decide +kernel)⟩

/-- met with a false premise: the images differ in length (32 + 32 and 32 + 33 bytes) and `hHi`
is injective on lengths -/
theorem exW_sep : hHi.H (structuralImage exW) = hHi.H (structuralImage exWr) →
    structuralImage exW = structuralImage exWr :=
  fun hh => absurd hh (by decide +kernel)

end Toy

end AW
end EnvVerif
