/-
  Lemmas/Laws.lean — the laws of the dependencies that the theorems of C08 (symmetric
  encryption) and C13 (compression) are relative to.  The first two are structures in `Prop`,
  taken as explicit hypotheses by the theorems (never axioms), and each comes with a toy
  instance for which the laws are *proved*, so the hypotheses are satisfiable.

  * `AeadLaws A`  — an idealised AEAD (`SymmetricKey::encrypt/decrypt`, IETF ChaCha20-Poly1305).
  * `DeflateLaws Z` — `inflate (deflate b) = some b`.
  * `RoundTrips h x` — the whole-envelope byte codec round-trips on the one envelope `x`.
  * `AadReadsBack` — *proved* for the model codec (`Obs.aadReadsBack`).  The theorems use the same
    fact per digest, `AadOk d` (Lemmas/ObscureLemmas.lean), which holds for every 32-byte digest
    (`aadOk_of_valid`); C02 takes it as the hypothesis `ActOk` / `AadLaw`, C08 derives it from
    `∀ b, (h.H b).Valid`.
-/
import EnvVerif.Model.Inv
namespace EnvVerif

structure AeadLaws (A : Aead) : Prop where
  /-- correctness: opening what was sealed, with the same key, nonce and aad -/
  dec_enc : ∀ k n p a, A.dec k n (A.enc k n p a).1 a (A.enc k n p a).2 = some p
  /-- perfect authenticity: whatever opens under `(k, n, a)` was sealed under `(k, n, a)` -/
  dec_only_enc : ∀ k n c a t p, A.dec k n c a t = some p → (c, t) = A.enc k n p a
  /-- a sealed pair determines the key, the nonce and the additional data -/
  enc_inj : ∀ k n p a k' n' p' a', A.enc k n p a = A.enc k' n' p' a' → k = k' ∧ n = n' ∧ a = a'

namespace AeadLaws
variable {A : Aead} (L : AeadLaws A)
include L

theorem dec_eq_some_iff (k n c a t p : Bytes) :
    A.dec k n c a t = some p ↔ (c, t) = A.enc k n p a := by
  constructor
  · exact L.dec_only_enc k n c a t p
  · intro hc
    have h1 : c = (A.enc k n p a).1 := congrArg Prod.fst hc
    have h2 : t = (A.enc k n p a).2 := congrArg Prod.snd hc
    rw [h1, h2]
    exact L.dec_enc k n p a

/-- the plaintext too is determined (a consequence of `dec_enc`) -/
theorem enc_inj_plain (k n p a k' n' p' a' : Bytes) (he : A.enc k n p a = A.enc k' n' p' a') :
    p = p' := by
  obtain ⟨rfl, rfl, rfl⟩ := L.enc_inj _ _ _ _ _ _ _ _ he
  have h1 := L.dec_enc k n p a
  rw [he, L.dec_enc k n p' a] at h1
  exact (Option.some.inj h1).symm

theorem dec_other (k n p a k' n' a' : Bytes) (hne : k' ≠ k ∨ n' ≠ n ∨ a' ≠ a) :
    A.dec k' n' (A.enc k n p a).1 a' (A.enc k n p a).2 = none := by
  cases hd : A.dec k' n' (A.enc k n p a).1 a' (A.enc k n p a).2 with
  | none => rfl
  | some p' =>
    have he := L.dec_only_enc _ _ _ _ _ _ hd
    obtain ⟨rfl, rfl, rfl⟩ := L.enc_inj _ _ _ _ _ _ _ _ he
    rcases hne with h | h | h <;> exact absurd rfl h

/-- anything that opens is the sealed pair of what it opens to -/
theorem dec_tampered (k n p a c t : Bytes) (hne : (c, t) ≠ A.enc k n p a) :
    A.dec k n c a t = none ∨ ∃ p', p' ≠ p ∧ A.dec k n c a t = some p' ∧ (c, t) = A.enc k n p' a := by
  cases hd : A.dec k n c a t with
  | none => exact Or.inl rfl
  | some p' =>
    have he := L.dec_only_enc _ _ _ _ _ _ hd
    refine Or.inr ⟨p', ?_, rfl, he⟩
    rintro rfl
    exact hne he

end AeadLaws

structure DeflateLaws (Z : Deflate) : Prop where
  inflate_deflate : ∀ b, Z.inflate (Z.deflate b) = some b

/-- `Envelope::from_tagged_cbor_data(x.tagged_cbor().to_cbor_data()) = Ok(x)`: verbatim the
conclusion of C05 `decode_encode` (from `Inv h x`, `EncShape x`, `Encodable x`, no hypothesis on the
codec).  The theorems of C08 / C13 take it for the one envelope that is encrypted or compressed, and
not as `∀ e, Inv h e → decode h (encode e) = .ok e`, which is *false* for every hash: an `Inv` envelope
may hold an encrypted element whose nonce is not 12 bytes, or a compressed element whose data is
longer than its declared size, and the decoder refuses those (`Obs.not_forall_inv_roundTrips`). -/
def RoundTrips (h : Hash) (x : Env) : Prop := decode h (encode x) = .ok x

/-- the aad written by `encrypt_with_digest` reads back as the digest (`EncryptedMessage::opt_digest`) -/
def AadReadsBack : Prop :=
  ∀ d : Digest, d.Valid → ∀ ct n a : Bytes, EncMsg.optDigest ⟨ct, n, a, (digestCbor d).enc⟩ = some d

namespace ToyDeps

/-- unary length prefix, a zero, the string, the rest: an injective pairing of byte strings -/
def pack (x rest : Bytes) : Bytes := List.replicate x.length 1 ++ 0 :: (x ++ rest)

/-- number of bytes before the first zero byte, and what follows that zero -/
def splitOnes : Bytes → Nat × Bytes
  | [] => (0, [])
  | b :: bs => if b = 0 then (0, bs) else ((splitOnes bs).1 + 1, (splitOnes bs).2)

def unpack (l : Bytes) : Bytes × Bytes :=
  ((splitOnes l).2.take (splitOnes l).1, (splitOnes l).2.drop (splitOnes l).1)

theorem splitOnes_replicate (n : Nat) (r : Bytes) :
    splitOnes (List.replicate n 1 ++ 0 :: r) = (n, r) := by
  induction n with
  | zero => simp [splitOnes]
  | succ n ih => simp [List.replicate_succ, splitOnes, ih]

theorem unpack_pack (x r : Bytes) : unpack (pack x r) = (x, r) := by
  simp [unpack, pack, splitOnes_replicate]

theorem pack_inj {x r x' r' : Bytes} (hp : pack x r = pack x' r') : x = x' ∧ r = r' := by
  have h1 := unpack_pack x r
  rw [hp, unpack_pack] at h1
  exact ⟨(congrArg Prod.fst h1).symm, (congrArg Prod.snd h1).symm⟩

def zeros16 : Bytes := List.replicate 16 0

/-- "ciphertext" = key, nonce, aad (each framed), plaintext; tag = 16 zero bytes -/
def toyEnc (k n p a : Bytes) : Bytes × Bytes := (pack k (pack n (pack a p)), zeros16)

/-- the plaintext position of a toy ciphertext -/
def toyPlain (c : Bytes) : Bytes := (unpack (unpack (unpack c).2).2).2

theorem toyPlain_toyEnc (k n p a : Bytes) : toyPlain (toyEnc k n p a).1 = p := by
  simp [toyPlain, toyEnc, unpack_pack]

/-- opens exactly what `toyEnc` produced for this key, nonce and aad -/
def toyAead : Aead where
  enc := toyEnc
  dec := fun k n c a t => if toyEnc k n (toyPlain c) a = (c, t) then some (toyPlain c) else none

theorem toyAead_laws : AeadLaws toyAead where
  dec_enc := by
    intro k n p a
    simp only [toyAead, toyPlain_toyEnc]
    simp
  dec_only_enc := by
    intro k n c a t p hd
    simp only [toyAead] at hd
    split at hd
    · next he => cases hd; exact he.symm
    · cases hd
  enc_inj := by
    intro k n p a k' n' p' a' he
    simp only [toyAead, toyEnc, Prod.mk.injEq, and_true] at he
    obtain ⟨hk, h1⟩ := pack_inj he
    obtain ⟨hn, h2⟩ := pack_inj h1
    obtain ⟨ha, _⟩ := pack_inj h2
    exact ⟨hk, hn, ha⟩

theorem toyAead_tag_length (k n p a : Bytes) : (toyAead.enc k n p a).2.length = 16 := by
  simp [toyAead, toyEnc, zeros16]

/-- stores the data as it is (so `Compressed` never takes the deflated form) -/
def toyDeflate : Deflate where
  deflate := id
  inflate := some
  crc := fun _ => 0

theorem toyDeflate_laws : DeflateLaws toyDeflate where
  inflate_deflate := by intro b; rfl

/-- replaces the two-byte head `d8 c8` (CBOR tag 200, with which every envelope encoding
starts) by one byte: a toy that does shorten envelope encodings, so that the deflated form
of `Compressed` is exercised; the checksum is the length -/
def toyDefl (b : Bytes) : Bytes :=
  match b with
  | 0xd8 :: 0xc8 :: r => 1 :: r
  | _ => 2 :: b

def toyInfl (c : Bytes) : Option Bytes :=
  match c with
  | 1 :: r => some (0xd8 :: 0xc8 :: r)
  | 2 :: b => some b
  | _ => none

def toyDeflate2 : Deflate where
  deflate := toyDefl
  inflate := toyInfl
  crc := fun b => b.length

theorem toyDeflate2_laws : DeflateLaws toyDeflate2 where
  inflate_deflate := by
    intro b
    show toyInfl (toyDefl b) = some b
    unfold toyDefl
    split
    · rfl
    · rfl

/-- a hash with 32-byte outputs (not collision resistant; only for satisfiability) -/
def toyHash : Hash := ⟨fun b => ⟨b.length % 2 ^ 256⟩⟩

theorem toyHash_valid (b : Bytes) : (toyHash.H b).Valid := by
  simp only [toyHash, Digest.Valid]
  exact Nat.mod_lt _ (by decide)

end ToyDeps

end EnvVerif
