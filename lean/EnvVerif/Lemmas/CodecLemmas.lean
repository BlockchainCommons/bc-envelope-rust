/-
  Lemmas/CodecLemmas.lean — the envelope codec (C05 / C06).  The decoder is reasoned about through
  its equations, one per CBOR shape, and through one induction over it, `envOfCbor_sat`: it never
  panics, and what it accepts re-encodes to the input up to the `#6.24` alias and is `WF`, `Canon`,
  `EncShape`.
-/
import EnvVerif.Lemmas.Basic
import EnvVerif.Lemmas.CodecSpec
namespace EnvVerif
open Env

theorem ascAdj_iff : ∀ (as : List Env), ascAdj as = true ↔ AscDigests as
  | [] => by simp [ascAdj, AscDigests]
  | [_] => by simp [ascAdj, AscDigests]
  | a :: b :: rest => by
    have ih := ascAdj_iff (b :: rest)
    simp only [ascAdj, Bool.and_eq_true, decide_eq_true_eq, ih, AscDigests, List.pairwise_cons]
    constructor
    · rintro ⟨hab, hb, hrest⟩
      refine ⟨?_, hb, hrest⟩
      intro c hc
      rcases List.mem_cons.mp hc with rfl | hc
      · exact hab
      · exact Nat.lt_trans hab (hb c hc)
    · rintro ⟨ha, hb, hrest⟩
      exact ⟨ha b (List.mem_cons_self), hb, hrest⟩

/-! The model writes `?` as `match r with | .ok x => f x | .err e => .err e | .panic p => .panic p`.
Case by case that is `r.bind f`, the form in which `Res.bind_eq_ok` and `Res.Sat.bind` apply. -/

section
variable (h : Hash)

theorem envOfCbor_leaf (c : Cbor) : envOfCbor h (.tagged TAG_LEAF c) = .ok (newLeaf h c) := by
  rw [envOfCbor]; rfl

theorem envOfCbor_leaf24 (c : Cbor) : envOfCbor h (.tagged TAG_ENCODED_CBOR c) = .ok (newLeaf h c) := by
  rw [envOfCbor]; rfl

theorem envOfCbor_wrapped (c : Cbor) :
    envOfCbor h (.tagged TAG_ENVELOPE c) = (envOfCbor h c).bind fun e => .ok (newWrapped h e) := by
  simp only [envOfCbor]
  cases envOfCbor h c <;> rfl

theorem envOfCbor_encrypted (c : Cbor) : envOfCbor h (.tagged TAG_ENCRYPTED c) = decodeEncrypted c := by
  rw [envOfCbor]; rfl

theorem envOfCbor_compressed (c : Cbor) : envOfCbor h (.tagged TAG_COMPRESSED c) = decodeCompressed c := by
  rw [envOfCbor]; rfl

theorem envOfCbor_unknown_tag {t : Nat} (item : Cbor) (h1 : t ≠ TAG_LEAF) (h2 : t ≠ TAG_ENCODED_CBOR)
    (h3 : t ≠ TAG_ENVELOPE) (h4 : t ≠ TAG_ENCRYPTED) (h5 : t ≠ TAG_COMPRESSED) :
    envOfCbor h (.tagged t item) = .err "unknown-tag" := by
  simp [envOfCbor, h1, h2, h3, h4, h5]

theorem envOfCbor_bytes (b : Bytes) :
    envOfCbor h (.bytes b) =
      match Digest.ofBytes? b with
      | some d => .ok (newElided d)
      | none => .err "dep:digest-size" := by
  rw [envOfCbor]; rfl

theorem envOfCbor_array (x y : Cbor) (r : List Cbor) :
    envOfCbor h (.array (x :: y :: r)) =
      (envOfCbor h x).bind fun s => (envOfCborList h (y :: r)).bind fun as =>
        if ascAdj as then newNode h s as else .err "assertions-not-ascending" := by
  simp only [envOfCbor]
  cases envOfCbor h x <;> cases envOfCborList h (y :: r) <;> rfl

theorem envOfCbor_map_one (k v : Cbor) :
    envOfCbor h (.map [(k, v)]) =
      (envOfCbor h k).bind fun p => (envOfCbor h v).bind fun o => .ok (newAssertion h p o) := by
  simp only [envOfCbor]
  cases envOfCbor h k <;> cases envOfCbor h v <;> rfl

theorem envOfCbor_uint (v : Nat) : envOfCbor h (.uint v) = .ok (newKnownValue h v) := by
  rw [envOfCbor]

theorem envOfCborList_nil : envOfCborList h [] = .ok [] := by
  rw [envOfCborList]

theorem envOfCborList_cons (x : Cbor) (xs : List Cbor) :
    envOfCborList h (x :: xs) =
      (envOfCbor h x).bind fun e => (envOfCborList h xs).bind fun es => .ok (e :: es) := by
  simp only [envOfCborList]
  cases envOfCbor h x <;> cases envOfCborList h xs <;> rfl

end

theorem encMsgCbor_of_aad {m : EncMsg} (hne : m.aad ≠ []) :
    encMsgCbor m = .array [.bytes m.ciphertext, .bytes m.nonce, .bytes m.auth, .bytes m.aad] := by
  simp [encMsgCbor, hne]

theorem decodeEncrypted_sat (item : Cbor) :
    (decodeEncrypted item).Sat fun e => ∃ m d, e = .encrypted m d ∧ item = encMsgCbor m ∧
      m.optDigest = some d ∧ m.nonce.length = 12 ∧ m.auth.length = 16 ∧ m.aad ≠ [] := by
  fun_cases decodeEncrypted item
  case case4 ct nonce auth aad hn ha hne m d hd =>
    have hne : m.aad ≠ [] := by simpa using hne
    exact ⟨m, d, rfl, (encMsgCbor_of_aad hne).symm, hd, by simpa using hn, by simpa using ha, hne⟩
  all_goals trivial

theorem decodeEncrypted_encMsgCbor {m : EncMsg} {d : Digest}
    (hw : m.optDigest = some d) (hn : m.nonce.length = 12) (ha : m.auth.length = 16)
    (hne : m.aad ≠ []) : decodeEncrypted (encMsgCbor m) = .ok (.encrypted m d) := by
  simp [encMsgCbor_of_aad hne, decodeEncrypted, hn, ha, hne, hw]

theorem decodeCompressed_sat (item : Cbor) :
    (decodeCompressed item).Sat fun e => ∃ c d, e = .compressed c d ∧ item = compMsgCbor c d ∧
      d.Valid ∧ c.checksum < 2 ^ 32 ∧ c.size < 2 ^ 64 ∧ c.data.length ≤ c.size := by
  fun_cases decodeCompressed item
  case case3 c s data dg d hd h1 h2 =>
    obtain ⟨rfl, hv⟩ := digestOfCbor_eq_some.1 hd
    simp only [Bool.or_eq_true, Bool.not_eq_eq_eq_not, Bool.not_true, decide_eq_false_iff_not,
      not_or, Decidable.not_not] at h1
    exact ⟨_, d, rfl, rfl, hv, h1.1, h1.2, Nat.le_of_not_lt h2⟩
  all_goals trivial

theorem decodeCompressed_compMsgCbor {c : CompMsg} {d : Digest} (hd : d.Valid)
    (h1 : c.checksum < 2 ^ 32) (h2 : c.size < 2 ^ 64) (h3 : c.data.length ≤ c.size) :
    decodeCompressed (compMsgCbor c d) = .ok (.compressed c d) := by
  simp [compMsgCbor, decodeCompressed, digestOfCbor_digestCbor hd, h1, h2, Nat.not_lt.2 h3]

section
variable (h : Hash)

theorem newNode_sat (s : Env) {as : List Env} (hne : as ≠ []) :
    (newNode h s as).Sat fun e => (∀ a ∈ as, a.slotOk = true) ∧ e = mkNode h s as := by
  rw [newNode, newNodeUnchecked_eq h hne]
  split
  · rename_i hall
    exact ⟨by simpa using hall, rfl⟩
  · trivial

/-- everything the decoder guarantees about an accepted tree -/
def DecodedOk (c : Cbor) (e : Env) : Prop :=
  cborOf e = legacyNorm c ∧ WF h e ∧ Canon e ∧ EncShape e

def DecodedListOk (cs : List Cbor) (es : List Env) : Prop :=
  cborOfList es = legacyNormList cs ∧ (∀ e ∈ es, WF h e) ∧ (∀ e ∈ es, Canon e) ∧
    (∀ e ∈ es, EncShape e) ∧ es.length = cs.length

theorem envOfCbor_sat_tagged (t : Nat) (item : Cbor) (ih : (envOfCbor h item).Sat (DecodedOk h item)) :
    (envOfCbor h (.tagged t item)).Sat (DecodedOk h (.tagged t item)) := by
  by_cases h1 : t = TAG_LEAF
  · subst h1
    rw [envOfCbor_leaf]
    exact ⟨(legacyNorm_tagged _ _ (by decide) (by decide)).symm, rfl, trivial, trivial⟩
  by_cases h2 : t = TAG_ENCODED_CBOR
  · subst h2
    rw [envOfCbor_leaf24]
    exact ⟨by simp [legacyNorm, cborOf, newLeaf], rfl, trivial, trivial⟩
  by_cases h3 : t = TAG_ENVELOPE
  · subst h3
    rw [envOfCbor_wrapped]
    refine ih.bind fun e _ ⟨e1, e2, e3, e4⟩ => ?_
    exact ⟨by simp [legacyNorm, cborOf, newWrapped, e1, TAG_ENVELOPE, TAG_ENCODED_CBOR],
      (WF_wrapped ..).2 ⟨e2, rfl⟩, e3, e4⟩
  by_cases h4 : t = TAG_ENCRYPTED
  · subst h4
    rw [envOfCbor_encrypted]
    refine (decodeEncrypted_sat item).imp ?_
    rintro _ ⟨m, d, rfl, rfl, hd, hs⟩
    exact ⟨(legacyNorm_tagged _ _ (by decide) (by decide)).symm, hd, optDigest_valid hd, hs⟩
  by_cases h5 : t = TAG_COMPRESSED
  · subst h5
    rw [envOfCbor_compressed]
    refine (decodeCompressed_sat item).imp ?_
    rintro _ ⟨c, d, rfl, rfl, hv, hs⟩
    exact ⟨(legacyNorm_tagged _ _ (by decide) (by decide)).symm, trivial, hv, hs⟩
  rw [envOfCbor_unknown_tag h item h1 h2 h3 h4 h5]
  trivial

mutual
theorem envOfCbor_sat : (c : Cbor) → (envOfCbor h c).Sat (DecodedOk h c)
  | .tagged t item => envOfCbor_sat_tagged h t item (envOfCbor_sat item)
  | .bytes b => by
    rw [envOfCbor_bytes]
    split
    · rename_i d hd
      obtain ⟨hb, hv⟩ := Digest.ofBytes_eq_some.1 hd
      exact ⟨by rw [newElided, cborOf, legacyNorm, hb], trivial, hv, trivial⟩
    · trivial
  | .array (x :: y :: r) => by
    rw [envOfCbor_array]
    refine (envOfCbor_sat x).bind fun s _ ⟨s1, s2, s3, s4⟩ => ?_
    refine (envOfCborList_sat (y :: r)).bind fun as _ ⟨l1, l2, l3, l4, l5⟩ => ?_
    split
    · rename_i hasc
      rw [ascAdj_iff] at hasc
      have hne : as ≠ [] := by rintro rfl; cases l5
      refine (newNode_sat h s hne).imp ?_
      rintro _ ⟨hslot, rfl⟩
      rw [mkNode_of_asc h hasc]
      refine ⟨?_, (WF_node ..).2 ⟨s2, l2, rfl⟩, (Canon_node ..).2 ⟨s3, l3, hne, hasc, hslot⟩, ?_⟩
      · rw [cborOf, legacyNorm, legacyNormList, s1, l1]
      · exact (EncShape_node ..).2 ⟨s4, l4⟩
    · trivial
  | .map [(k, v)] => by
    rw [envOfCbor_map_one]
    refine (envOfCbor_sat k).bind fun p _ ⟨p1, p2, p3, p4⟩ => ?_
    refine (envOfCbor_sat v).bind fun o _ ⟨o1, o2, o3, o4⟩ => ?_
    refine ⟨?_, (WF_assertion ..).2 ⟨p2, o2, rfl⟩, (Canon_assertion ..).2 ⟨p3, o3⟩, p4, o4⟩
    rw [newAssertion, cborOf, legacyNorm, legacyNormPairs, legacyNormPairs, p1, o1]
  | .uint v => by
    rw [envOfCbor_uint]
    exact ⟨rfl, rfl, trivial, trivial⟩
  | .array [] | .array [_] | .map [] | .map (_ :: _ :: _) | .nint _ | .text _ | .simple _ | .float _ => by
    simp only [envOfCbor]; trivial
theorem envOfCborList_sat : (cs : List Cbor) → (envOfCborList h cs).Sat (DecodedListOk h cs)
  | [] => by
    rw [envOfCborList_nil]
    exact ⟨rfl, nofun, nofun, nofun, rfl⟩
  | x :: xs => by
    rw [envOfCborList_cons]
    refine (envOfCbor_sat x).bind fun e _ ⟨s1, s2, s3, s4⟩ => ?_
    refine (envOfCborList_sat xs).bind fun es _ ⟨l1, l2, l3, l4, l5⟩ => ?_
    refine ⟨?_, List.forall_mem_cons.2 ⟨s2, l2⟩, List.forall_mem_cons.2 ⟨s3, l3⟩,
      List.forall_mem_cons.2 ⟨s4, l4⟩, congrArg (· + 1) l5⟩
    rw [cborOfList, legacyNormList, s1, l1]
end

theorem envOfCborList_no_panic_aux :
    (cs : List Cbor) → (p : String) → envOfCborList h cs ≠ .panic p :=
  fun cs p => (envOfCborList_sat h cs).ne_panic p

theorem envOfCborList_eq_ok {cs : List Cbor} {es : List Env} :
    envOfCborList h cs = .ok es ↔ Forall₂ (fun c a => envOfCbor h c = .ok a) cs es := by
  induction cs generalizing es with
  | nil =>
    rw [envOfCborList_nil]
    exact ⟨fun he => by cases he; exact .nil, fun hf => by cases hf; rfl⟩
  | cons c cs ih =>
    simp only [envOfCborList_cons, Res.bind_eq_ok, ih]
    constructor
    · rintro ⟨a, ha, as, has, he⟩
      cases he
      exact .cons ha has
    · rintro (_ | ⟨ha, has⟩)
      exact ⟨_, ha, _, has, rfl⟩

theorem envOfCbor_array_eq_ok {x : Cbor} {rest : List Cbor} {e : Env} :
    envOfCbor h (.array (x :: rest)) = .ok e ↔
      ∃ s, envOfCbor h x = .ok s ∧ ∃ as, envOfCborList h rest = .ok as ∧
        AscDigests as ∧ (∀ a ∈ as, a.slotOk = true) ∧ as ≠ [] ∧ e = mkNode h s as := by
  cases rest with
  | nil =>
    simp only [envOfCbor, envOfCborList_nil, reduceCtorEq, false_iff]
    rintro ⟨_, _, _, h0, _, _, hne, _⟩
    cases h0
    exact hne rfl
  | cons y r =>
    simp only [envOfCbor_array, Res.bind_eq_ok]
    refine exists_congr fun s => and_congr_right fun _ => exists_congr fun as => and_congr_right fun _ => ?_
    split
    · rename_i hasc
      simp [newNode_eq_ok, (ascAdj_iff as).1 hasc]
    · rename_i hasc
      simp [mt (ascAdj_iff as).2 hasc]

theorem envOfCborList_cborOfList_of {as : List Env} (hi : ∀ a ∈ as, envOfCbor h (cborOf a) = .ok a) :
    envOfCborList h (cborOfList as) = .ok as := by
  induction as with
  | nil => exact envOfCborList_nil h
  | cons a as ih =>
    rw [cborOfList, envOfCborList_cons, hi a (by simp), ih fun b hb => hi b (by simp [hb])]
    rfl

/-- this, `envOfTaggedCbor_taggedCborOf_of` and `decode_encode_of` are the round trips of Props/C05.lean
with `Inv h e` taken apart into `WF h e` and `Canon e`, as the induction passes them to the children -/
theorem envOfCbor_cborOf_of (e : Env) : WF h e → Canon e → EncShape e → envOfCbor h (cborOf e) = .ok e := by
  induction e using Env.induct with
  | hnode s as d ihs ihas =>
    intro hw hc hs
    simp only [WF_node, Canon_node, EncShape_node] at hw hc hs
    obtain ⟨hcs, hcas, hne, hasc, hslot⟩ := hc
    rw [cborOf]
    exact (envOfCbor_array_eq_ok h).2 ⟨s, ihs hw.1 hcs hs.1, as,
      envOfCborList_cborOfList_of h fun b hb => ihas b hb (hw.2.1 b hb) (hcas b hb) (hs.2 b hb),
      hasc, hslot, hne, by rw [mkNode_of_asc h hasc, hw.2.2]⟩
  | hleaf c d =>
    intro hw _ _
    rw [cborOf, envOfCbor_leaf, newLeaf, (WF_leaf h c d).1 hw]
  | hwrapped e d ih =>
    intro hw hc hs
    rw [cborOf, envOfCbor_wrapped, ih hw.1 hc hs, hw.2]
    rfl
  | hassertion p o d ihp iho =>
    intro hw hc hs
    rw [cborOf, envOfCbor_map_one, ihp hw.1 hc.1 hs.1, iho hw.2.1 hc.2 hs.2, hw.2.2]
    rfl
  | helided d =>
    intro _ hc _
    rw [cborOf, envOfCbor_bytes, Digest.ofBytes_bytes hc]
    rfl
  | hknownValue v d =>
    intro hw _ _
    rw [cborOf, envOfCbor_uint, newKnownValue, (WF_knownValue h v d).1 hw]
  | hencrypted m d =>
    intro hw _ hs
    rw [cborOf, envOfCbor_encrypted, decodeEncrypted_encMsgCbor hw hs.1 hs.2.1 hs.2.2]
  | hcompressed c d =>
    intro _ hc hs
    rw [cborOf, envOfCbor_compressed, decodeCompressed_compMsgCbor hc hs.1 hs.2.1 hs.2.2]

theorem envOfTaggedCbor_taggedCborOf_of (e : Env) (hw : WF h e) (hc : Canon e) (hs : EncShape e) :
    envOfTaggedCbor h (taggedCborOf e) = .ok e := by
  simp only [taggedCborOf, envOfTaggedCbor, beq_self_eq_true, if_true]
  exact envOfCbor_cborOf_of h e hw hc hs

/-- `from_tagged_cbor` -/
theorem envOfTaggedCbor_sat (c : Cbor) :
    (envOfTaggedCbor h c).Sat fun e => taggedCborOf e = legacyNorm c ∧ Inv h e ∧ EncShape e := by
  fun_cases envOfTaggedCbor h c
  case case1 t item ht =>
    cases beq_iff_eq.mp ht
    refine (envOfCbor_sat h item).imp fun e ⟨h1, h2, h3, h4⟩ => ⟨?_, ⟨h2, h3⟩, h4⟩
    simp [taggedCborOf, legacyNorm, h1, TAG_ENVELOPE, TAG_ENCODED_CBOR]
  all_goals trivial

theorem decode_eq_ok {b : Bytes} {e : Env} :
    decode h b = .ok e ↔ ∃ c, Cbor.dec b = .ok c ∧ envOfTaggedCbor h c = .ok e := by
  fun_cases decode h b <;> simp [*]

/-- `from_tagged_cbor_data` -/
theorem decode_sat (b : Bytes) :
    (decode h b).Sat fun e => encode e = legacyNormBytes b ∧ Inv h e ∧ EncShape e := by
  unfold decode legacyNormBytes
  cases Cbor.dec b with
  | ok c => exact (envOfTaggedCbor_sat h c).imp fun e ⟨h1, h2⟩ => ⟨by rw [encode, h1], h2⟩
  | error x => trivial

end

theorem digestCbor_valid (d : Digest) : (digestCbor d).Valid := by
  simp only [digestCbor, Cbor.Valid, Digest.bytes_length, TAG_DIGEST]
  omega

theorem cborOf_valid (e : Env) : Encodable e → EncShape e → (cborOf e).Valid := by
  induction e using Env.induct with
  | hnode s as d ihs ihas =>
    intro he hs
    rw [Encodable_node] at he
    rw [EncShape_node] at hs
    simp only [cborOf, Cbor.Valid, Cbor.validList_iff, cborOfList_eq_map, List.length_cons,
      List.length_map, List.mem_cons, List.mem_map, forall_eq_or_imp]
    exact ⟨he.2.2, ihs he.1 hs.1, fun c ⟨a, ha, hc⟩ => hc ▸ ihas a ha (he.2.1 a ha) (hs.2 a ha)⟩
  | hleaf c d => exact fun he _ => ⟨by decide, he⟩
  | hwrapped e d ih => exact fun he hs => ⟨by decide, ih he hs⟩
  | hassertion p o d ihp iho =>
    intro he hs
    simp [cborOf, Cbor.Valid, Cbor.ValidPairs, ihp he.1 hs.1, iho he.2 hs.2, Cbor.KeysAsc, Cbor.keysEnc]
  | helided d =>
    intro _ _
    simp only [cborOf, Cbor.Valid, Digest.bytes_length]
    decide
  | hknownValue v d => exact fun he _ => he
  | hencrypted m d =>
    intro he hs
    simp only [cborOf, encMsgCbor_of_aad hs.2.2, Cbor.Valid, Cbor.ValidList, hs.1, hs.2.1, he.1, he.2,
      TAG_ENCRYPTED, List.length_cons, List.length_nil, and_true]
    decide
  | hcompressed c d =>
    intro _ hs
    obtain ⟨h1, h2, h3⟩ := hs
    have := digestCbor_valid d
    simp only [cborOf, compMsgCbor, Cbor.Valid, Cbor.ValidList, this, TAG_COMPRESSED, List.length_cons,
      List.length_nil, and_true]
    omega

theorem cborOfList_valid :
    (as : List Env) → EncodableList as → EncShapeList as → Cbor.ValidList (cborOfList as) := by
  intro as he hs
  rw [cborOfList_eq_map, Cbor.validList_iff]
  intro c hc
  obtain ⟨a, ha, rfl⟩ := List.mem_map.1 hc
  exact cborOf_valid a ((EncodableList_iff as).1 he a ha) ((EncShapeList_iff as).1 hs a ha)

theorem taggedCborOf_valid {e : Env} (he : Encodable e) (hs : EncShape e) : (taggedCborOf e).Valid := by
  simp only [taggedCborOf, Cbor.Valid, cborOf_valid e he hs, TAG_ENVELOPE, and_true]
  omega

theorem decode_encode_of (h : Hash) (e : Env) (hw : WF h e) (hc : Canon e) (hs : EncShape e)
    (he : Encodable e) : decode h (encode e) = .ok e :=
  (decode_eq_ok h).2 ⟨_, Cbor.decEncLaw _ (taggedCborOf_valid he hs),
    envOfTaggedCbor_taggedCborOf_of h e hw hc hs⟩

/-- `EncryptedMessage::opt_digest` of a message whose `aad` is the encoded tagged digest `d`
(by the first codec law, `Cbor.decEncLaw`) -/
theorem optDigest_of_aad {m : EncMsg} {d : Digest} (hd : d.Valid) (ha : m.aad = (digestCbor d).enc) :
    m.optDigest = some d := by
  simp only [EncMsg.optDigest, ha, Cbor.dec?, Cbor.decEncLaw _ (digestCbor_valid d),
    digestOfCbor_digestCbor hd]

/-- an empty additional data declares no digest: the empty string is no CBOR item -/
theorem optDigest_of_aad_nil {m : EncMsg} (ha : m.aad = []) : m.optDigest = none := by
  rw [EncMsg.optDigest, ha]
  rfl

theorem optDigest_encryptWithDigest (A : Aead) (key nonce plaintext : Bytes)
    {d : Digest} (hd : d.Valid) :
    (encryptWithDigest A key nonce plaintext d).optDigest = some d :=
  optDigest_of_aad hd rfl

namespace CodecEx
/-- a toy hash: the length of the image -/
def toyH : Hash := ⟨fun b => ⟨b.length⟩⟩
def sLeaf : Env := .leaf (.text [0x61]) ⟨2⟩
def sKV : Env := .knownValue 1 ⟨4⟩
def sAssert : Env := .assertion sKV sLeaf ⟨64⟩
def sElided : Env := .elided ⟨70⟩
def sEncMsg : EncMsg :=
  { ciphertext := [1, 2, 3], nonce := List.replicate 12 0, auth := List.replicate 16 0,
    aad := (digestCbor ⟨80⟩).enc }
def sEnc : Env := .encrypted sEncMsg ⟨80⟩
def sComp : Env := .compressed { checksum := 7, size := 10, data := [1, 2] } ⟨90⟩
def sWrapped : Env := .wrapped sLeaf ⟨32⟩
/-- a node with a wrapped subject and four assertion elements: an assertion (known-value
predicate, text leaf object), an elided, an encrypted and a compressed element -/
def sample : Env := .node sWrapped [sAssert, sElided, sEnc, sComp] ⟨160⟩

theorem sample_inv : Inv toyH sample := by
  have henc : sEncMsg.optDigest = some ⟨80⟩ := optDigest_of_aad (by simp [Digest.Valid]) rfl
  simp only [Inv, sample, sWrapped, sAssert, sElided, sEnc, sComp, sLeaf, sKV, WF_node, WF_wrapped, WF_leaf,
    WF_assertion, WF_knownValue, WF_elided, WF_encrypted, WF_compressed, henc, Canon_node, Canon_wrapped,
    Canon_leaf, Canon_assertion, Canon_knownValue, Canon_elided, Canon_encrypted, Canon_compressed,
    List.forall_mem_cons, List.not_mem_nil, false_imp_iff, implies_true, and_true, ne_eq, reduceCtorEq,
    not_false_eq_true, toyH, Hash.ofDigests, catDigests_length, List.map, Env.digest, List.length_cons,
    List.length_nil, Digest.Valid, AscDigests, List.pairwise_cons]
  decide

theorem sample_encShape : EncShape sample := by
  simp [sample, sWrapped, sLeaf, sAssert, sKV, sElided, sEnc, sComp, EncShape, EncShapeList, sEncMsg]
  decide

theorem sample_encodable : Encodable sample := by
  simp [sample, sWrapped, sLeaf, sAssert, sKV, sElided, sEnc, sComp, Encodable, EncodableList,
    sEncMsg, Cbor.Valid]
  decide
end CodecEx

end EnvVerif
