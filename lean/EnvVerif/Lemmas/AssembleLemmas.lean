/-
  Lemmas/AssembleLemmas.lean — adding and removing assertions: `addAssertionEnvelope`,
  `addAll` and `removeAssertion` in closed form for any receiver (the subject stays, the stored
  list becomes `normAdd` of the old one; a canonical node's stored list is the unique ascending
  arrangement of its elements), then on envelopes written as `rebuild h s as` and under the
  invariant; the `unwrap()` folds (`unwrapFold_eq`, `replaceSubject_eq`).
-/
import EnvVerif.Lemmas.Basic
-- for `addAssertionUnwrap` (`add_assertion` of assertions.rs), which the model keeps there
import EnvVerif.Model.Signature
namespace EnvVerif
namespace AW
open Env

theorem asc_nodup {l : List Env} (hl : AscDigests l) : l.Nodup :=
  hl.distinct.imp fun hne heq => hne (congrArg _ heq)

theorem asc_ext {l1 l2 : List Env} (h1 : AscDigests l1) (h2 : AscDigests l2)
    (hm : ∀ x, x ∈ l1 ↔ x ∈ l2) : l1 = l2 :=
  List.Pairwise.eq_of_mem_iff (fun _ _ => Nat.lt_asymm) h1 h2 hm

theorem any_digest_iff {as : List Env} {d : Digest} :
    as.any (fun x => x.digest == d) = true ↔ ∃ x ∈ as, x.digest = d := by
  simp [List.any_eq_true]

theorem any_digest_false_iff {as : List Env} {d : Digest} :
    as.any (fun x => x.digest == d) = false ↔ ∀ x ∈ as, x.digest ≠ d := by
  simp [List.any_eq_false]

theorem sortByDigest_singleton (a : Env) : sortByDigest [a] = [a] := by
  simp [sortByDigest]

theorem sortByDigest_pair (a b : Env) :
    sortByDigest [a, b] = if a.digest.val ≤ b.digest.val then [a, b] else [b, a] := by
  rw [sortByDigest, List.mergeSort_pair, digestLe]
  simp only [decide_eq_true_eq]

/-- what `mkNode` sorts when an element with a new digest is added -/
theorem distinct_snoc {as : List Env} {a : Env} (hl : AscDigests as)
    (hn : ∀ x ∈ as, x.digest ≠ a.digest) : (as ++ [a]).Pairwise (fun a b => a.digest ≠ b.digest) :=
  List.pairwise_append.2 ⟨hl.distinct, List.pairwise_singleton .., fun x hx _ hy =>
    List.mem_singleton.1 hy ▸ hn x hx⟩

/-- split the sorted list at `a`: what is left around it is ascending with the members of `as`, hence
is `as` (`asc_ext`) -/
theorem sort_snoc_split {as : List Env} {a : Env} (hasc : AscDigests as)
    (hn : ∀ x ∈ as, x.digest ≠ a.digest) :
    ∃ l1 l2, as = l1 ++ l2 ∧ sortByDigest (as ++ [a]) = l1 ++ a :: l2 := by
  have hs := sortByDigest_asc (distinct_snoc hasc hn)
  obtain ⟨l1, l2, hL⟩ := List.append_of_mem
    (mem_sortByDigest.2 (List.mem_append_right _ List.mem_cons_self) : a ∈ sortByDigest (as ++ [a]))
  have hp : (l1 ++ l2).Perm as :=
    (List.perm_cons a).1 ((List.perm_middle.symm.trans (hL ▸ sortByDigest_perm _)).trans
      List.perm_append_comm)
  rw [hL] at hs
  exact ⟨l1, l2, (asc_ext (hs.sublist ((List.sublist_cons_self a l2).append_left l1)) hasc
    fun x => hp.mem_iff).symm, hL⟩

theorem findIdx_split {l1 l2 : List Env} {a : Env} (hn : ∀ x ∈ l1, x.digest ≠ a.digest) :
    findDigestIdx (l1 ++ a :: l2) a.digest = some l1.length ∧
      (l1 ++ a :: l2).eraseIdx l1.length = l1 ++ l2 := by
  induction l1 with
  | nil => simp [findDigestIdx, List.findIdx?_cons]
  | cons x l1 ih =>
    have hx : x.digest ≠ a.digest := hn x (by simp)
    have ih' := ih (fun y hy => hn y (by simp [hy]))
    simp only [findDigestIdx] at ih' ⊢
    constructor
    · simp only [List.cons_append, List.findIdx?_cons, beq_iff_eq, hx, if_false, ih'.1,
        Option.map_some, List.length_cons]
    · simp only [List.cons_append, List.length_cons, List.eraseIdx_cons_succ, ih'.2]

/-- what `addAssertionEnvelope` does to the stored assertion list -/
def normAdd (as : List Env) (a : Env) : List Env :=
  if as.any (fun x => x.digest == a.digest) then as else sortByDigest (as ++ [a])

/-- the node with a recomputed digest, assertions stored as given -/
def nodeOf (h : Hash) (s : Env) (as : List Env) : Env :=
  .node s as (h.ofDigests (s.digest :: as.map Env.digest))

/-- the envelope with subject `s` and stored assertion list `as` -/
def rebuild (h : Hash) (s : Env) (as : List Env) : Env :=
  match as with
  | [] => s
  | _ :: _ => nodeOf h s as

theorem rebuild_ne {h : Hash} {s : Env} {as : List Env} (hne : as ≠ []) :
    rebuild h s as = nodeOf h s as := by
  cases as with
  | nil => exact absurd rfl hne
  | cons a as => rfl

theorem normAdd_nil (a : Env) : normAdd [] a = [a] := by
  rw [normAdd, List.any_nil, List.nil_append, sortByDigest_singleton]; rfl

theorem normAdd_fresh {as : List Env} {a : Env} (hn : ∀ x ∈ as, x.digest ≠ a.digest) :
    normAdd as a = sortByDigest (as ++ [a]) := by
  rw [normAdd, any_digest_false_iff.2 hn]; rfl

theorem normAdd_present {as : List Env} {a : Env} (hp : ∃ x ∈ as, x.digest = a.digest) :
    normAdd as a = as := by
  rw [normAdd, any_digest_iff.2 hp]; rfl

theorem normAdd_perm {as : List Env} {a : Env} (hn : ∀ x ∈ as, x.digest ≠ a.digest) :
    (normAdd as a).Perm (as ++ [a]) := by
  rw [normAdd_fresh hn]; exact sortByDigest_perm _

theorem mem_normAdd_iff {as : List Env} {a x : Env} :
    x ∈ normAdd as a ↔ x ∈ as ∨ (x = a ∧ ∀ y ∈ as, y.digest ≠ a.digest) := by
  cases hany : as.any (fun y => y.digest == a.digest)
  · have hf := any_digest_false_iff.1 hany
    rw [(normAdd_perm hf).mem_iff, List.mem_append, List.mem_singleton]
    exact ⟨fun hx => hx.imp_right fun hx => ⟨hx, hf⟩, fun hx => hx.imp_right And.left⟩
  · obtain ⟨y, hy, hd⟩ := any_digest_iff.1 hany
    rw [normAdd_present ⟨y, hy, hd⟩]
    exact ⟨Or.inl, fun hx => hx.elim id fun hx => absurd hd (hx.2 y hy)⟩

theorem mem_normAdd_sub {as : List Env} {a x : Env} (hx : x ∈ normAdd as a) : x ∈ as ∨ x = a :=
  (mem_normAdd_iff.1 hx).imp_right And.left

theorem mem_normAdd_of_mem {as : List Env} {a x : Env} (hx : x ∈ as) : x ∈ normAdd as a :=
  mem_normAdd_iff.2 (Or.inl hx)

theorem normAdd_digest (as : List Env) (a : Env) : ∃ y ∈ normAdd as a, y.digest = a.digest := by
  cases hany : as.any (fun y => y.digest == a.digest)
  · exact ⟨a, mem_normAdd_iff.2 (Or.inr ⟨rfl, any_digest_false_iff.1 hany⟩), rfl⟩
  · obtain ⟨y, hy, hd⟩ := any_digest_iff.1 hany
    exact ⟨y, mem_normAdd_iff.2 (Or.inl hy), hd⟩

theorem normAdd_ne_nil (as : List Env) (a : Env) : normAdd as a ≠ [] := by
  intro hn
  obtain ⟨y, hy, _⟩ := normAdd_digest as a
  rw [hn] at hy
  cases hy

theorem normAdd_asc {as : List Env} {a : Env} (hl : AscDigests as) : AscDigests (normAdd as a) := by
  cases hany : as.any (fun x => x.digest == a.digest)
  · rw [normAdd_fresh (any_digest_false_iff.1 hany)]
    exact sortByDigest_asc (distinct_snoc hl (any_digest_false_iff.1 hany))
  · rwa [normAdd_present (any_digest_iff.1 hany)]

theorem mem_normAdd_self {as : List Env} {a : Env} (hns : ∀ y ∈ as, y.digest = a.digest → y = a) :
    a ∈ normAdd as a := by
  obtain ⟨y, hy, hd⟩ := normAdd_digest as a
  rcases mem_normAdd_iff.1 hy with h1 | h1
  · cases hns y h1 hd; exact hy
  · cases h1.1; exact hy

theorem normAdd_length_le (as : List Env) (a : Env) : (normAdd as a).length ≤ as.length + 1 := by
  unfold normAdd
  split
  · omega
  · rw [sortByDigest_length]; simp

theorem normAdd_split {as : List Env} (a : Env) (hasc : AscDigests as) :
    normAdd as a = as ∨ ∃ l1 l2, as = l1 ++ l2 ∧ normAdd as a = l1 ++ a :: l2 := by
  cases hany : as.any (fun x => x.digest == a.digest)
  · have hn := any_digest_false_iff.1 hany
    rw [normAdd_fresh hn]
    exact Or.inr (sort_snoc_split hasc hn)
  · exact Or.inl (normAdd_present (any_digest_iff.1 hany))

def DigInj (l : List Env) : Prop := ∀ a ∈ l, ∀ b ∈ l, a.digest = b.digest → a = b

theorem DigInj.of_pairwise {l : List Env} (hp : l.Pairwise (fun a b => a.digest ≠ b.digest)) :
    DigInj l := fun _ ha _ hb =>
  List.Pairwise.forall_of_forall_of_flip (R := fun a b => a.digest = b.digest → a = b)
    (fun _ _ _ => rfl) (hp.imp fun hne heq => absurd heq hne)
    (hp.imp fun hne heq => absurd heq.symm hne) ha hb

theorem foldl_normAdd_asc : ∀ (l : List Env) {as : List Env}, AscDigests as →
    AscDigests (l.foldl normAdd as)
  | [], _, hl => hl
  | a :: l, _, hl => by
    simp only [List.foldl_cons]
    exact foldl_normAdd_asc l (normAdd_asc hl)

/-- an element whose digest is already present is ignored: of the added ones, the first with each new
digest is stored -/
theorem mem_foldl_normAdd_first : ∀ (l : List Env) {as : List Env} (x : Env),
    x ∈ l.foldl normAdd as ↔
      x ∈ as ∨ ((∀ y ∈ as, y.digest ≠ x.digest) ∧ l.find? (fun b => b.digest == x.digest) = some x)
  | [], _, x => by simp
  | a :: l, as, x => by
    rw [List.foldl_cons, mem_foldl_normAdd_first l x, mem_normAdd_iff, List.find?_cons]
    by_cases hax : a.digest = x.digest
    · -- `a` is stored, or shadowed by an element of `as` with its digest: nothing later counts
      obtain ⟨y, hy, hyd⟩ := normAdd_digest as a
      simp only [beq_iff_eq.2 hax, Option.some.injEq]
      constructor
      · rintro ((h | ⟨rfl, hf⟩) | ⟨h1, _⟩)
        · exact Or.inl h
        · exact Or.inr ⟨hf, rfl⟩
        · exact absurd (hyd.trans hax) (h1 y hy)
      · rintro (h | ⟨hf, rfl⟩)
        · exact Or.inl (Or.inl h)
        · exact Or.inl (Or.inr ⟨rfl, hf⟩)
    · simp only [beq_eq_false_iff_ne.2 hax]
      constructor
      · rintro ((h | ⟨rfl, _⟩) | ⟨h1, h2⟩)
        · exact Or.inl h
        · exact absurd rfl hax
        · exact Or.inr ⟨fun y hy => h1 y (mem_normAdd_of_mem hy), h2⟩
      · rintro (h | ⟨h1, h2⟩)
        · exact Or.inl (Or.inl h)
        · refine Or.inr ⟨fun y hy => ?_, h2⟩
          rcases mem_normAdd_sub hy with hy | rfl
          · exact h1 y hy
          · exact hax

theorem mem_foldl_normAdd (l : List Env) {as : List Env} (hinj : DigInj l) (x : Env) :
    x ∈ l.foldl normAdd as ↔ x ∈ as ∨ (x ∈ l ∧ ∀ y ∈ as, y.digest ≠ x.digest) := by
  have hf : l.find? (fun b => b.digest == x.digest) = some x ↔ x ∈ l := by
    refine ⟨List.mem_of_find?_eq_some, fun hx => ?_⟩
    cases hf : l.find? (fun b => b.digest == x.digest) with
    | none => exact absurd (beq_self_eq_true _) (List.find?_eq_none.1 hf x hx)
    | some y =>
      rw [hinj y (List.mem_of_find?_eq_some hf) x hx
        (beq_iff_eq.1 (List.find?_some (p := fun b : Env => b.digest == x.digest) hf))]
  rw [mem_foldl_normAdd_first, hf, and_comm]

/-- `mem_foldl_normAdd` without its side condition, given that an old and a new element with one
digest are equal (`hcross`) -/
theorem mem_foldl_normAdd' {l as : List Env} (hinj : DigInj l)
    (hcross : ∀ y ∈ as, ∀ x ∈ l, y.digest = x.digest → y = x) (x : Env) :
    x ∈ l.foldl normAdd as ↔ x ∈ as ∨ x ∈ l := by
  rw [mem_foldl_normAdd l hinj x]
  constructor
  · rintro (hx | ⟨hx, _⟩)
    · exact Or.inl hx
    · exact Or.inr hx
  · rintro (hx | hx)
    · exact Or.inl hx
    · by_cases hex : ∃ y ∈ as, y.digest = x.digest
      · obtain ⟨y, hy, hyd⟩ := hex
        have := hcross y hy x hx hyd
        subst this
        exact Or.inl hy
      · exact Or.inr ⟨hx, fun y hy hyd => hex ⟨y, hy, hyd⟩⟩

theorem mem_foldl_normAdd_old (l : List Env) {as : List Env} {x : Env} (hx : x ∈ as) :
    x ∈ l.foldl normAdd as :=
  (mem_foldl_normAdd_first l x).2 (Or.inl hx)

theorem mem_foldl_normAdd_sub (l : List Env) {as : List Env} {x : Env}
    (hx : x ∈ l.foldl normAdd as) : x ∈ as ∨ x ∈ l :=
  ((mem_foldl_normAdd_first l x).1 hx).imp_right fun h => List.mem_of_find?_eq_some h.2

theorem foldl_normAdd_digest : ∀ (l : List Env) {as : List Env} {a : Env}, a ∈ as ∨ a ∈ l →
    ∃ y ∈ l.foldl normAdd as, y.digest = a.digest
  | [], _, a, ha => ⟨a, ha.elim id (fun h => nomatch h), rfl⟩
  | b :: l, as, a, ha => by
    rcases ha with ha | ha
    · exact ⟨a, mem_foldl_normAdd_old _ ha, rfl⟩
    · rcases List.mem_cons.1 ha with rfl | ha
      · obtain ⟨y, hy, hd⟩ := normAdd_digest as a
        exact ⟨y, mem_foldl_normAdd_old l hy, hd⟩
      · exact foldl_normAdd_digest l (Or.inr ha)

theorem mem_foldl_normAdd_new {l as : List Env} {a : Env} (ha : a ∈ l)
    (hns : ∀ y, (y ∈ as ∨ y ∈ l) → y.digest = a.digest → y = a) : a ∈ l.foldl normAdd as := by
  obtain ⟨y, hy, hd⟩ := foldl_normAdd_digest l (as := as) (Or.inr ha)
  exact hns y (mem_foldl_normAdd_sub l hy) hd ▸ hy

theorem foldl_normAdd_congr_mem {as l1 l2 : List Env} (has : AscDigests as)
    (hmem : ∀ a, a ∈ l1 ↔ a ∈ l2) (hinj : DigInj l1) :
    l1.foldl normAdd as = l2.foldl normAdd as := by
  have hinj2 : DigInj l2 := fun a ha b hb => hinj a ((hmem a).2 ha) b ((hmem b).2 hb)
  apply asc_ext (foldl_normAdd_asc l1 has) (foldl_normAdd_asc l2 has)
  intro x
  rw [mem_foldl_normAdd l1 hinj, mem_foldl_normAdd l2 hinj2, hmem x]

theorem foldl_normAdd_of_asc {l : List Env} (hl : AscDigests l) : l.foldl normAdd [] = l :=
  asc_ext (foldl_normAdd_asc l List.Pairwise.nil) hl fun x => by
    rw [mem_foldl_normAdd l (.of_pairwise hl.distinct)]; simp

theorem foldl_normAdd_length_le : ∀ (l : List Env) (as : List Env),
    (l.foldl normAdd as).length ≤ as.length + l.length
  | [], _ => by simp
  | a :: l, as => by
    simp only [List.foldl_cons, List.length_cons]
    have := foldl_normAdd_length_le l (normAdd as a)
    have := normAdd_length_le as a
    omega

theorem foldl_normAdd_ne_nil : ∀ (l : List Env) {as : List Env}, (as ≠ [] ∨ l ≠ []) →
    l.foldl normAdd as ≠ []
  | [], _, h => by simpa using h
  | a :: l, as, _ => by
    simp only [List.foldl_cons]
    exact foldl_normAdd_ne_nil l (Or.inl (normAdd_ne_nil as a))

section
variable (h : Hash)

/-- the whole of `add_assertion_envelope` -/
theorem addAssertionEnvelope_eq (e a : Env) :
    addAssertionEnvelope h e a =
      if a.slotOk then
        .ok (if e.assertions.any (fun x => x.digest == a.digest) then e
             else nodeOf h e.subject (sortByDigest (e.assertions ++ [a])))
      else .err "InvalidFormat" := by
  unfold addAssertionEnvelope
  cases a.slotOk
  · rfl
  · have hne : ∀ (s : Env) (as : List Env), newNodeUnchecked h s (as ++ [a]) =
        .ok (nodeOf h s (sortByDigest (as ++ [a]))) :=
      fun s as => newNodeUnchecked_eq h (List.append_ne_nil_of_right_ne_nil as (List.cons_ne_nil a []))
    cases e with
    | node s as d =>
      simp only [Bool.not_true, Bool.false_eq_true, if_false, if_true, Env.assertions, Env.subject, hne]
      exact (apply_ite Res.ok _ _ _).symm
    | _ => exact hne _ []

theorem add_eq (e : Env) {a : Env} (hs : a.slotOk = true) :
    addAssertionEnvelope h e a =
      .ok (if e.assertions.any (fun x => x.digest == a.digest) then e
           else nodeOf h e.subject (sortByDigest (e.assertions ++ [a]))) := by
  rw [addAssertionEnvelope_eq, hs, if_pos rfl]

theorem add_eq_of_present (e : Env) {a : Env} (hs : a.slotOk = true)
    (hp : ∃ x ∈ e.assertions, x.digest = a.digest) : addAssertionEnvelope h e a = .ok e := by
  rw [add_eq h e hs, any_digest_iff.2 hp]; rfl

theorem add_not_slot {e a : Env} (hslot : a.slotOk = false) :
    addAssertionEnvelope h e a = .err "InvalidFormat" := by
  rw [addAssertionEnvelope_eq, hslot]; rfl

theorem add_isOk (e : Env) {a : Env} (hs : a.slotOk = true) :
    ∃ r, addAssertionEnvelope h e a = .ok r := ⟨_, add_eq h e hs⟩

/-- `x.add_assertion_envelope(a).unwrap()`, whatever the panic message -/
theorem add_unwrap {e a : Env} (hs : a.slotOk = true) (site : String) :
    (match addAssertionEnvelope h e a with
      | .ok r => Res.ok r
      | .err _ => .panic site
      | .panic x => .panic x) = addAssertionEnvelope h e a := by
  rw [add_eq h e hs]

/-- `add_assertion(p, o)` never fails: the `unwrap` is never reached with an `Err` -/
theorem addAssertionUnwrap_eq (e p o : Env) :
    addAssertionUnwrap h e p o = addAssertionEnvelope h e (newAssertion h p o) :=
  add_unwrap h (newAssertion_slotOk h p o) _

theorem addAssertionUnwrap_isOk (e p o : Env) : ∃ r, addAssertionUnwrap h e p o = .ok r :=
  ⟨_, (addAssertionUnwrap_eq h e p o).trans (add_eq h e (newAssertion_slotOk h p o))⟩

theorem addAll_nil (h : Hash) (e : Env) : addAll h e [] = .ok e := rfl

theorem addAll_cons (e a : Env) (l : List Env) :
    addAll h e (a :: l) = (addAssertionEnvelope h e a).bind fun x => addAll h x l :=
  Res.foldl_bind_cons _ a l e

/-- the fold of `x.add_assertion_envelope(a).unwrap()`, whatever the panic message -/
theorem unwrapFold_eq (site : String) : ∀ (as : List Env) (s : Env),
    as.foldl (fun (acc : Res Env) a => acc.bind fun x =>
        match addAssertionEnvelope h x a with
        | .ok y => Res.ok y
        | .err _ => .panic site
        | .panic p => .panic p) (.ok s) =
      if as.all slotOk then addAll h s as else .panic site
  | [], _ => rfl
  | a :: as, s => by
    rw [Res.foldl_bind_cons, List.all_cons]
    cases hs : a.slotOk with
    | true => rw [add_unwrap h hs, addAll_cons, add_eq h s hs, Bool.true_and]; exact unwrapFold_eq site as _
    | false => rw [add_not_slot h hs, Bool.false_and]; rfl

theorem replaceSubject_eq (e s : Env) :
    replaceSubject h e s =
      if e.assertions.all slotOk then addAll h s e.assertions
      else .panic "assertions.rs:replace_subject:unwrap" :=
  unwrapFold_eq h _ e.assertions s

theorem addAll_isOk : ∀ (l : List Env) (e : Env), (∀ a ∈ l, a.slotOk = true) →
    ∃ r, addAll h e l = .ok r
  | [], e, _ => ⟨e, rfl⟩
  | a :: l, e, hs => by
    rw [addAll_cons, add_eq h e (hs a List.mem_cons_self)]
    exact addAll_isOk l _ (fun b hb => hs b (List.mem_cons_of_mem _ hb))

theorem addAll_present (e : Env) (hc : Canon e) : ∀ (as : List Env),
    (∀ a ∈ as, a ∈ e.assertions) → addAll h e as = .ok e
  | [], _ => rfl
  | a :: as, hm => by
    have ha := hm a List.mem_cons_self
    rw [addAll_cons, add_eq_of_present h e (hc.slotOk a ha) ⟨a, ha, rfl⟩, Res.ok_bind]
    exact addAll_present e hc as fun x hx => hm x (List.mem_cons_of_mem _ hx)

/-- the whole of `remove_assertion`; `rebuild` gives the bare subject when no assertion is left -/
theorem removeAssertion_eq (e t : Env) :
    removeAssertion h e t = .ok
      (match findDigestIdx e.assertions t.digest with
       | none => e
       | some i => rebuild h e.subject (sortByDigest (e.assertions.eraseIdx i))) := by
  simp only [removeAssertion]
  cases findDigestIdx e.assertions t.digest with
  | none => rfl
  | some i =>
    simp only
    cases e.assertions.eraseIdx i with
    | nil => rw [sortByDigest_eq_nil.2 rfl]; rfl
    | cons x xs =>
      rw [newNodeUnchecked_eq h (List.cons_ne_nil x xs),
        rebuild_ne (fun hn => List.cons_ne_nil x xs (sortByDigest_eq_nil.1 hn))]
      rfl

/-! ### receivers written as `rebuild h s as`: every envelope satisfying the invariant is one (`rebuild_of_inv`) -/

theorem rebuild_subject {s : Env} {as : List Env} (hc : s.isNode = false ∨ as ≠ []) :
    (rebuild h s as).subject = s := by
  cases as with
  | nil => cases s <;> first | rfl | exact absurd rfl (hc.elim (fun h => nomatch h) id)
  | cons a as => rfl

theorem rebuild_assertions {s : Env} {as : List Env} (hc : s.isNode = false ∨ as ≠ []) :
    (rebuild h s as).assertions = as := by
  cases as with
  | nil => cases s <;> first | rfl | exact absurd rfl (hc.elim (fun h => nomatch h) id)
  | cons a as => rfl

theorem rebuild_digest {s : Env} {as : List Env} (hne : as ≠ []) :
    (rebuild h s as).digest = h.ofDigests (s.digest :: as.map Env.digest) := by
  rw [rebuild_ne hne]; rfl

theorem add_rebuild {s : Env} {as : List Env} {a : Env}
    (hc : s.isNode = false ∨ as ≠ []) (hslot : a.slotOk = true) :
    addAssertionEnvelope h (rebuild h s as) a = .ok (rebuild h s (normAdd as a)) := by
  rw [add_eq h _ hslot, rebuild_subject h hc, rebuild_assertions h hc,
    rebuild_ne (normAdd_ne_nil as a), normAdd]
  split
  · rename_i hany
    rw [rebuild_ne (fun hn => by rw [hn] at hany; cases hany)]
  · rfl

theorem addAll_rebuild {s : Env} : ∀ (l : List Env) {as : List Env},
    (s.isNode = false ∨ as ≠ []) →
    addAll h (rebuild h s as) l =
      if l.all slotOk then .ok (rebuild h s (l.foldl normAdd as)) else .err "InvalidFormat"
  | [], _, _ => rfl
  | a :: l, as, hc => by
    rw [addAll_cons]
    cases hslot : a.slotOk with
    | false => simp [add_not_slot h hslot, Res.bind, hslot]
    | true =>
      rw [add_rebuild h hc hslot]
      simp only [Res.bind, List.all_cons, hslot, Bool.true_and, List.foldl_cons]
      exact addAll_rebuild l (Or.inr (normAdd_ne_nil as a))

theorem addUnwrap_rebuild {s : Env} (as : List Env) (p o : Env) (hs : s.isNode = false) :
    addAssertionUnwrap h (rebuild h s as) p o = .ok (rebuild h s (normAdd as (newAssertion h p o))) := by
  rw [addAssertionUnwrap_eq, add_rebuild h (Or.inl hs) rfl]

/-- the first assertion on a subject that is not a node -/
theorem addUnwrap_bare {s : Env} (p o : Env) (hs : s.isNode = false) :
    addAssertionUnwrap h s p o = .ok (rebuild h s [newAssertion h p o]) :=
  (addUnwrap_rebuild h [] p o hs).trans (by rw [normAdd_nil])

theorem Canon_rebuild {s : Env} {as : List Env} (hs : Canon s) (has : ∀ a ∈ as, Canon a)
    (hasc : AscDigests as) (hslot : ∀ a ∈ as, a.slotOk = true) : Canon (rebuild h s as) := by
  cases as with
  | nil => exact hs
  | cons a as => exact (Canon_node ..).2 ⟨hs, has, List.cons_ne_nil a as, hasc, hslot⟩

end

section
variable {h : Hash}

theorem WF_rebuild {s : Env} {as : List Env} :
    WF h (rebuild h s as) ↔ WF h s ∧ ∀ a ∈ as, WF h a := by
  cases as with
  | nil => exact ⟨fun hs => ⟨hs, nofun⟩, And.left⟩
  | cons a as => exact (WF_node ..).trans (by simp only [and_true])

theorem rebuild_inv {s : Env} {as : List Env} (hs : Inv h s) (has : ∀ a ∈ as, Inv h a)
    (hasc : AscDigests as) (hslot : ∀ a ∈ as, a.slotOk = true) : Inv h (rebuild h s as) :=
  ⟨WF_rebuild.2 ⟨hs.1, fun a ha => (has a ha).1⟩,
   Canon_rebuild h hs.2 (fun a ha => (has a ha).2) hasc hslot⟩

theorem inv_single {s a : Env} (hs : Inv h s) (ha : Inv h a) (hslot : a.slotOk = true) :
    Inv h (.node s [a] (h.ofDigests [s.digest, a.digest])) :=
  rebuild_inv (as := [a]) hs (fun _ hx => List.mem_singleton.1 hx ▸ ha) (List.pairwise_singleton _ _)
    (fun _ hx => List.mem_singleton.1 hx ▸ hslot)

theorem add_slotOk {e a r : Env} (hr : addAssertionEnvelope h e a = .ok r) : a.slotOk = true := by
  cases hs : a.slotOk
  · rw [add_not_slot h hs] at hr; cases hr
  · rfl

theorem add_ok_eq {e a r : Env} (hr : addAssertionEnvelope h e a = .ok r) :
    r = if e.assertions.any (fun x => x.digest == a.digest) then e
        else nodeOf h e.subject (sortByDigest (e.assertions ++ [a])) := by
  rw [add_eq h e (add_slotOk hr)] at hr; exact (Res.ok.inj hr).symm

theorem add_subject {e a r : Env} (hr : addAssertionEnvelope h e a = .ok r) :
    r.subject = e.subject := by
  rw [add_ok_eq hr]; split <;> rfl

theorem add_assertions {e a r : Env} (hr : addAssertionEnvelope h e a = .ok r) :
    r.assertions = normAdd e.assertions a := by
  rw [add_ok_eq hr, normAdd]; split <;> rfl

theorem add_ok {e a r : Env} (hr : addAssertionEnvelope h e a = .ok r) :
    a.slotOk = true ∧ r.subject = e.subject ∧ r.assertions = normAdd e.assertions a :=
  ⟨add_slotOk hr, add_subject hr, add_assertions hr⟩

theorem add_ok_of_present {e a r : Env} (hp : ∃ x ∈ e.assertions, x.digest = a.digest)
    (hr : addAssertionEnvelope h e a = .ok r) : r = e := by
  rw [add_ok_eq hr, any_digest_iff.2 hp]; rfl

theorem add_fresh {e a r : Env} (hn : ∀ x ∈ e.assertions, x.digest ≠ a.digest)
    (hr : addAssertionEnvelope h e a = .ok r) :
    r.subject = e.subject ∧ (∀ x, x ∈ r.assertions ↔ x ∈ e.assertions ∨ x = a) ∧
      r.assertions.length = e.assertions.length + 1 ∧ r.assertions.Perm (e.assertions ++ [a]) := by
  have hp := add_assertions hr ▸ normAdd_perm hn
  refine ⟨add_subject hr, fun x => ?_, ?_, hp⟩
  · rw [hp.mem_iff, List.mem_append, List.mem_singleton]
  · rw [hp.length_eq, List.length_append]; rfl

theorem addAll_ok : ∀ (l : List Env) {e r : Env}, addAll h e l = .ok r →
    (∀ a ∈ l, a.slotOk = true) ∧ r.subject = e.subject ∧
      r.assertions = l.foldl normAdd e.assertions
  | [], _, _, hr => by cases hr; exact ⟨nofun, rfl, rfl⟩
  | a :: l, e, r, hr => by
    rw [addAll_cons] at hr
    obtain ⟨x, hx, hr⟩ := Res.bind_eq_ok.1 hr
    obtain ⟨hs, h1, h2⟩ := add_ok hx
    obtain ⟨hsl, h3, h4⟩ := addAll_ok l hr
    exact ⟨List.forall_mem_cons.2 ⟨hs, hsl⟩, h3.trans h1, by rw [h4, h2]; rfl⟩

theorem rebuild_of_inv {e : Env} (hi : Inv h e) :
    rebuild h e.subject e.assertions = e ∧ (e.subject.isNode = false ∨ e.assertions ≠ []) := by
  cases e with
  | node s as d =>
    refine ⟨?_, Or.inr hi.2.assertions_ne_nil⟩
    rw [Env.subject, Env.assertions, rebuild_ne hi.2.assertions_ne_nil, nodeOf, ← hi.1.node_digest]
  | _ => exact ⟨rfl, Or.inl rfl⟩

theorem add_of_inv {e a : Env} (hi : Inv h e) (hs : a.slotOk = true) :
    addAssertionEnvelope h e a = .ok (rebuild h e.subject (normAdd e.assertions a)) := by
  obtain ⟨hre, hc⟩ := rebuild_of_inv hi
  have := add_rebuild h hc hs
  rwa [hre] at this

theorem addAll_of_inv {s : Env} (hi : Inv h s) (l : List Env) :
    addAll h s l =
      if l.all slotOk then .ok (rebuild h s.subject (l.foldl normAdd s.assertions))
      else .err "InvalidFormat" := by
  obtain ⟨hre, hc⟩ := rebuild_of_inv hi
  have := addAll_rebuild h l hc
  rwa [hre] at this

theorem add_digest {e a r : Env} (hw : WF h e) (hr : addAssertionEnvelope h e a = .ok r) :
    r.digest = h.ofDigests (r.subject.digest :: r.assertions.map Env.digest) := by
  rw [add_ok_eq hr]
  split
  · rename_i hany
    cases e with
    | node s as d => exact hw.node_digest
    | _ => cases hany
  · rfl

theorem inv_rebuild_add {e s' : Env} (hi : Inv h e) (hs' : Inv h s') {l : List Env}
    (hl : ∀ a ∈ l, Inv h a ∧ a.slotOk = true) :
    Inv h (rebuild h s' (l.foldl normAdd e.assertions)) := by
  refine rebuild_inv hs' (fun a ha => ?_) (foldl_normAdd_asc l hi.2.asc) (fun a ha => ?_)
  · rcases mem_foldl_normAdd_sub l ha with h1 | h1
    · exact hi.assertions h1
    · exact (hl a h1).1
  · rcases mem_foldl_normAdd_sub l ha with h1 | h1
    · exact hi.2.slotOk a h1
    · exact (hl a h1).2

end

/-! The samples of the examples in Props/C07, C14, C15. Under `hLen` a digest is the length of
the hashed input (so `exA1.digest = ⟨64⟩`: two digests of 32 bytes); `exNode` stores its
assertions in ascending order, 5 < 64. -/
namespace Toy
def hLen : Hash := ⟨fun b => ⟨b.length⟩⟩
def exSubj : Env := newLeaf hLen (.uint 1)
def exA1 : Env := newAssertion hLen (newLeaf hLen (.uint 2)) (newLeaf hLen (.uint 3))
def exA2 : Env := .elided ⟨5⟩
def exA3 : Env := .elided ⟨7⟩
def exNode : Env := nodeOf hLen exSubj [exA2, exA1]

theorem exA1_digest : exA1.digest = ⟨64⟩ := by decide +kernel

theorem exNode_inv : Inv hLen exNode :=
  rebuild_inv (s := exSubj) (as := [exA2, exA1]) (Inv.newLeaf hLen _)
    (List.forall_mem_cons.2 ⟨⟨trivial, (by decide : (5 : Nat) < 2 ^ 256)⟩,
      List.forall_mem_cons.2 ⟨(Inv.newLeaf hLen _).newAssertion (Inv.newLeaf hLen _), nofun⟩⟩)
    (List.pairwise_pair.2 (by rw [exA1_digest]; decide))
    (List.forall_mem_cons.2 ⟨rfl, List.forall_mem_cons.2 ⟨rfl, nofun⟩⟩)

end Toy

end AW
end EnvVerif
