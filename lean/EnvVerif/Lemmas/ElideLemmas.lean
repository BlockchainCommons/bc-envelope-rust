/-
  Lemmas/ElideLemmas.lean — the obscuring traversal `elide_set_with_action` (`elideSet`).

  Everything rests on the step equations (`elideSet_hit`, `elideSet_miss_atom`, `elideSet_node_eq`,
  `elideSet_wrapped_eq`, `elideSet_assertion_eq`): they alone carry what holds of every outcome (no
  error path, non-interference of `elide`).  Two stacks stand on them.  Without hypotheses: the inversion of one
  successful step and the induction over successful runs (`elideSet_ok_rec`), for what the traversal
  preserves.  Under the invariant (and `ActOkHits`, which only `encrypt` needs): the traversal is the pure
  function `elideP` (`elideSet_eq`), off which the digests, the positions and the specification of both
  modes are read.
-/
import EnvVerif.Lemmas.Paths
import EnvVerif.Lemmas.ObscureLemmas
namespace EnvVerif
open Env

/-- the hypothesis on the action that the property files state: nothing for `elide` and `compress`; for
`encrypt` the codec fact at every digest occurring in `e`.  The proofs use two weaker ones: `ActOkAt`,
the fact at the one element the action is applied to, and `ActOkHits`, the fact at the hit elements,
which are all that the traversal hands to the action (so `elideSet_untouched` asks nothing of the
action); `ActOk.at_pos` and `ActOk.hits` lead there. -/
def ActOk : Action → Env → Prop
  | .encrypt _ _, e => ∀ p x, e.at p = some x → AadOk x.digest
  | _, _ => True

theorem ActOk.mem {act : Action} {s : Env} {as : List Env} {d : Digest} {a : Env}
    (ha : ActOk act (.node s as d)) (hm : a ∈ as) : ActOk act a := by
  cases act with
  | encrypt k n =>
    obtain ⟨i, hi, rfl⟩ := List.getElem_of_mem hm
    exact fun p x hx => ha (.assertion i :: p) x (by simp [Env.at_cons, Env.child, hi, hx])
  | _ => trivial

theorem ActOk.of_laws {h : Hash} (hAad : AadLaw) (hH : HashValid h) {e : Env} (hi : Inv h e)
    (act : Action) : ActOk act e := by
  cases act with
  | encrypt k n => intro p x hx; exact hAad _ ((hi.at hx).digest_valid hH)
  | _ => trivial

section
variable (h : Hash) (A : Aead) (Z : Deflate)

theorem obscure_elide (e : Env) : obscure A Z .elide e = .ok (.elided e.digest) := by
  simp only [obscure, elide_eq]

/-- `self.compress().unwrap_or_else(|_| self.clone())`: the compressed form, or the element
itself when it is already elided or encrypted -/
def compressOrSelf (e : Env) : Env :=
  match compress Z e with
  | .ok c => c
  | _ => e

theorem compressOrSelf_digest (e : Env) : (compressOrSelf Z e).digest = e.digest := by
  unfold compressOrSelf
  cases hc : compress Z e with
  | ok c => exact compress_ok_digest Z hc
  | _ => rfl

theorem compressOrSelf_isObscured (e : Env) : (compressOrSelf Z e).isObscured = true := by
  cases e <;> rfl

theorem obscure_compress (e : Env) : obscure A Z .compress e = .ok (compressOrSelf Z e) := by
  cases e <;> rfl

/-- what the action puts in the place of a hit element `y` -/
def IsPlaceholder (act : Action) (y x : Env) : Prop :=
  match act with
  | .elide => x = .elided y.digest
  | .compress => x = compressOrSelf Z y
  | .encrypt k n => x = .encrypted (encryptWithDigest A k (n y.digest) (encode y) y.digest) y.digest

def ActOkAt : Action → Digest → Prop
  | .encrypt _ _, d => AadOk d
  | _, _ => True

/-- `IsPlaceholder` as a function -/
def placeholder : Action → Env → Env
  | .elide, y => .elided y.digest
  | .compress, y => compressOrSelf Z y
  | .encrypt k n, y => .encrypted (encryptWithDigest A k (n y.digest) (encode y) y.digest) y.digest

theorem isPlaceholder_iff {act : Action} {y x : Env} :
    IsPlaceholder A Z act y x ↔ x = placeholder A Z act y := by cases act <;> rfl

theorem placeholder_digest (act : Action) (y : Env) : (placeholder A Z act y).digest = y.digest := by
  cases act with
  | compress => exact compressOrSelf_digest Z y
  | _ => rfl

theorem placeholder_isObscured (act : Action) (y : Env) : (placeholder A Z act y).isObscured = true := by
  cases act with
  | compress => exact compressOrSelf_isObscured Z y
  | _ => rfl

theorem IsPlaceholder.digest {act : Action} {y x : Env} (hp : IsPlaceholder A Z act y x) :
    x.digest = y.digest := by
  rw [(isPlaceholder_iff A Z).1 hp]
  exact placeholder_digest A Z act y

theorem IsPlaceholder.isObscured {act : Action} {y x : Env} (hp : IsPlaceholder A Z act y x) :
    x.isObscured = true := by
  rw [(isPlaceholder_iff A Z).1 hp]
  exact placeholder_isObscured A Z act y

theorem obscure_eq {act : Action} {e : Env} (ha : ActOkAt act e.digest) :
    obscure A Z act e = .ok (placeholder A Z act e) := by
  cases act with
  | elide => exact obscure_elide A Z e
  | compress => exact obscure_compress A Z e
  | encrypt k n =>
    simp only [obscure, placeholder]
    exact newEncryptedUnwrap_encryptWithDigest A _ _ _ ha _

theorem obscure_isOk {act : Action} {e : Env} (ha : ActOkAt act e.digest) :
    ∃ r, obscure A Z act e = .ok r :=
  ⟨_, obscure_eq A Z ha⟩

theorem obscure_not_err (act : Action) (e : Env) (x : String) : obscure A Z act e ≠ .err x := by
  cases act with
  | elide => simp [obscure]
  | compress => simp [obscure_compress]
  | encrypt k n => simp only [obscure]; exact newEncryptedUnwrap_not_err _ _ _

end

/-- same constructor, own content, digest and number of assertions; the children are not compared -/
def ShallowEq : Env → Env → Prop
  | .node _ as d, .node _ as' d' => d = d' ∧ as.length = as'.length
  | .leaf c d, .leaf c' d' => c = c' ∧ d = d'
  | .wrapped _ d, .wrapped _ d' => d = d'
  | .assertion _ _ d, .assertion _ _ d' => d = d'
  | .elided d, .elided d' => d = d'
  | .knownValue v d, .knownValue v' d' => v = v' ∧ d = d'
  | .encrypted m d, .encrypted m' d' => m = m' ∧ d = d'
  | .compressed c d, .compressed c' d' => c = c' ∧ d = d'
  | _, _ => False

theorem ShallowEq.refl (e : Env) : ShallowEq e e := by cases e <;> simp [ShallowEq]

theorem ShallowEq.elim {motive : Env → Env → Prop}
    (node : ∀ s as s' as' d, as.length = as'.length → motive (.node s as d) (.node s' as' d))
    (leaf : ∀ c d, motive (.leaf c d) (.leaf c d))
    (wrapped : ∀ e e' d, motive (.wrapped e d) (.wrapped e' d))
    (assertion : ∀ p o p' o' d, motive (.assertion p o d) (.assertion p' o' d))
    (elided : ∀ d, motive (.elided d) (.elided d))
    (knownValue : ∀ v d, motive (.knownValue v d) (.knownValue v d))
    (encrypted : ∀ m d, motive (.encrypted m d) (.encrypted m d))
    (compressed : ∀ c d, motive (.compressed c d) (.compressed c d))
    {x y : Env} (hs : ShallowEq x y) : motive x y := by
  unfold ShallowEq at hs
  split at hs
  · obtain ⟨rfl, hl⟩ := hs; exact node _ _ _ _ _ hl
  · obtain ⟨rfl, rfl⟩ := hs; exact leaf ..
  · subst hs; exact wrapped ..
  · subst hs; exact assertion ..
  · subst hs; exact elided ..
  · obtain ⟨rfl, rfl⟩ := hs; exact knownValue ..
  · obtain ⟨rfl, rfl⟩ := hs; exact encrypted ..
  · obtain ⟨rfl, rfl⟩ := hs; exact compressed ..
  · exact hs.elim

theorem ShallowEq.digest {x y : Env} (hs : ShallowEq x y) : x.digest = y.digest := by
  refine hs.elim (motive := fun x y => x.digest = y.digest) ?_ ?_ ?_ ?_ ?_ ?_ ?_ ?_ <;> intros <;> rfl

theorem ShallowEq.symm {x y : Env} (hs : ShallowEq x y) : ShallowEq y x := by
  refine hs.elim (motive := fun x y => ShallowEq y x) ?_ ?_ ?_ ?_ ?_ ?_ ?_ ?_ <;> intros <;>
    simp only [ShallowEq, and_self]
  rename_i hl
  exact ⟨trivial, hl.symm⟩

theorem ShallowEq.child_isSome {x y : Env} (hs : ShallowEq x y) (s : Step) :
    (x.child s).isSome = (y.child s).isSome := by
  refine hs.elim (motive := fun x y => (x.child s).isSome = (y.child s).isSome) ?_ ?_ ?_ ?_ ?_ ?_ ?_ ?_ <;>
    intros <;> cases s <;> try rfl
  rename_i hl i
  rw [Env.child, Env.child, Bool.eq_iff_iff, Option.isSome_iff_ne_none, Option.isSome_iff_ne_none,
    ne_eq, ne_eq, List.getElem?_eq_none_iff, List.getElem?_eq_none_iff, hl]

theorem Env.mapKids_shallowEq (g : Env → Env) (e : Env) : ShallowEq (e.mapKids g) e := by
  cases e <;> simp only [Env.mapKids, ShallowEq, List.length_map, and_self]

section
variable (h : Hash) (A : Aead) (Z : Deflate) (T : Digest → Bool) (rev : Bool) (act : Action)

theorem elideSet_hit {e : Env} (hh : (T e.digest != rev) = true) :
    elideSet h A Z T rev act e = obscure A Z act e := by
  unfold elideSet
  split <;> exact if_pos hh

theorem elideSet_miss_atom {e : Env} (hc : e.children = []) (hh : (T e.digest != rev) = false) :
    elideSet h A Z T rev act e = .ok e := by
  cases e <;> first | (unfold elideSet; exact if_neg (by rw [hh]; nofun)) | cases hc

/-! One step of the traversal on an element that is not hit, with the model's `match`es as `bind`s. -/

theorem elideSet_node_eq {s : Env} {as : List Env} {d : Digest} (hh : (T d != rev) = false) :
    elideSet h A Z T rev act (.node s as d) =
      (elideSet h A Z T rev act s).bind fun s' =>
        if s'.digest != s.digest then .panic "elide.rs:elide_set_with_action:assert-subject" else
        (elideSetList h A Z T rev act as).bind (newNodeUnchecked h s') := by
  rw [elideSet]
  simp only [hh, Bool.false_eq_true, if_false]
  cases elideSet h A Z T rev act s with
  | ok s' =>
    simp only [Res.ok_bind]
    split
    · rfl
    · cases elideSetList h A Z T rev act as <;> rfl
  | _ => rfl

theorem elideSet_wrapped_eq {e : Env} {d : Digest} (hh : (T d != rev) = false) :
    elideSet h A Z T rev act (.wrapped e d) =
      (elideSet h A Z T rev act e).bind fun e' =>
        if e'.digest != e.digest then .panic "elide.rs:elide_set_with_action:assert-wrapped"
        else .ok (newWrapped h e') := by
  rw [elideSet]
  simp only [hh, Bool.false_eq_true, if_false]
  cases elideSet h A Z T rev act e <;> rfl

theorem elideSet_assertion_eq {p o : Env} {d : Digest} (hh : (T d != rev) = false) :
    elideSet h A Z T rev act (.assertion p o d) =
      (elideSet h A Z T rev act p).bind fun p' => (elideSet h A Z T rev act o).bind fun o' =>
        if (newAssertion h p' o').digest == d then .ok (newAssertion h p' o')
        else .panic "elide.rs:elide_set_with_action:assert-assertion" := by
  rw [elideSet]
  simp only [hh, Bool.false_eq_true, if_false]
  cases elideSet h A Z T rev act p with
  | ok p' => cases elideSet h A Z T rev act o <;> rfl
  | _ => rfl

theorem elideSetList_cons_eq (a : Env) (as : List Env) :
    elideSetList h A Z T rev act (a :: as) =
      (elideSet h A Z T rev act a).bind fun a' =>
        if a'.digest != a.digest then .panic "elide.rs:elide_set_with_action:assert-assertion-elem" else
        (elideSetList h A Z T rev act as).bind fun as' => .ok (a' :: as') := by
  rw [elideSetList]
  cases elideSet h A Z T rev act a with
  | ok a' =>
    simp only [Res.ok_bind]
    split
    · rfl
    · cases elideSetList h A Z T rev act as <;> rfl
  | _ => rfl

theorem elideSetList_not_err {as : List Env}
    (ih : ∀ a ∈ as, ∀ x, elideSet h A Z T rev act a ≠ .err x) :
    ∀ x, elideSetList h A Z T rev act as ≠ .err x := by
  induction as with
  | nil => nofun
  | cons a as ihl =>
    rw [elideSetList_cons_eq]
    exact Res.bind_ne_err (ih a List.mem_cons_self) fun a' => Res.ite_panic_ne_err <|
      Res.bind_ne_err (ihl fun b hb => ih b (List.mem_cons_of_mem _ hb)) fun _ => nofun

/-- `elide_set_with_action` has no error path: the action has none, and every other step binds the
results of the children to a check that can only panic -/
theorem elideSet_not_err (e : Env) : ∀ x, elideSet h A Z T rev act e ≠ .err x := by
  induction e using Env.induct_kids with
  | H e ih =>
    by_cases hh : (T e.digest != rev) = true
    · rw [elideSet_hit h A Z T rev act hh]; exact obscure_not_err A Z act e
    · have hh' : (T e.digest != rev) = false := by simpa using hh
      cases e with
      | node s as d =>
        rw [elideSet_node_eq h A Z T rev act (d := d) hh']
        exact Res.bind_ne_err (ih s List.mem_cons_self) fun s' => Res.ite_panic_ne_err <|
          Res.bind_ne_err
            (elideSetList_not_err h A Z T rev act fun a ha => ih a (List.mem_cons_of_mem _ ha))
            (newNodeUnchecked_ne_err h s')
      | wrapped e d =>
        rw [elideSet_wrapped_eq h A Z T rev act (d := d) hh']
        exact Res.bind_ne_err (ih e List.mem_cons_self) fun e' => Res.ite_panic_ne_err nofun
      | assertion p o d =>
        rw [elideSet_assertion_eq h A Z T rev act (d := d) hh']
        refine Res.bind_ne_err (ih p List.mem_cons_self) fun p' =>
          Res.bind_ne_err (ih o (List.mem_cons_of_mem _ List.mem_cons_self)) fun o' x => ?_
        split <;> nofun
      | _ => rw [elideSet_miss_atom h A Z T rev act rfl hh']; nofun

end

/-- the same tree outside the subtrees whose root digest is hit, equal digests at those roots; what
lies below a hit root is unconstrained — it may even be a different kind of element -/
inductive AgreeOutside (hit : Digest → Bool) : Env → Env → Prop where
  | hidden {e1 e2 : Env} : e1.digest = e2.digest → hit e1.digest = true → AgreeOutside hit e1 e2
  | visible {e1 e2 : Env} : ShallowEq e1 e2 →
      (∀ s c1 c2, e1.child s = some c1 → e2.child s = some c2 → AgreeOutside hit c1 c2) →
      AgreeOutside hit e1 e2

theorem AgreeOutside.digest {hit : Digest → Bool} {e1 e2 : Env} (ha : AgreeOutside hit e1 e2) :
    e1.digest = e2.digest := by
  cases ha with
  | hidden hd _ => exact hd
  | visible hs _ => exact hs.digest

theorem AgreeOutside.refl (hit : Digest → Bool) (e : Env) : AgreeOutside hit e e := by
  induction e using Env.induct_kids with
  | H e ih =>
    apply AgreeOutside.visible (ShallowEq.refl e)
    intro s c1 c2 h1 h2
    rw [h1] at h2; cases h2
    exact ih c1 (Env.mem_children_iff.2 ⟨s, h1⟩)

section
variable (h : Hash) (A : Aead) (Z : Deflate) (T : Digest → Bool) (rev : Bool) (act : Action)

theorem elideSetList_congr {as1 as2 : List Env} (hl : as1.length = as2.length)
    (hp : ∀ (i : Nat) (a1 a2 : Env), as1[i]? = some a1 → as2[i]? = some a2 →
      elideSet h A Z T rev act a1 = elideSet h A Z T rev act a2 ∧ a1.digest = a2.digest) :
    elideSetList h A Z T rev act as1 = elideSetList h A Z T rev act as2 := by
  induction as1 generalizing as2 with
  | nil =>
    cases as2 with
    | nil => rfl
    | cons b bs => simp at hl
  | cons a as ih =>
    cases as2 with
    | nil => simp at hl
    | cons b bs =>
      obtain ⟨h1, h2⟩ := hp 0 a b rfl rfl
      have ht := ih (as2 := bs) (by simpa using hl)
        (fun i a1 a2 ha1 ha2 => hp (i + 1) a1 a2 (by simpa using ha1) (by simpa using ha2))
      simp only [elideSetList, h1, h2, ht]

/-- non-interference of the `elide` action, both modes at once -/
theorem elideSet_elide_congr {e1 e2 : Env}
    (hag : AgreeOutside (fun d => T d != rev) e1 e2) :
    elideSet h A Z T rev .elide e1 = elideSet h A Z T rev .elide e2 := by
  have hit : ∀ {e1 e2 : Env}, e1.digest = e2.digest → (T e1.digest != rev) = true →
      elideSet h A Z T rev .elide e1 = elideSet h A Z T rev .elide e2 := fun hd hh => by
    rw [elideSet_hit h A Z T rev _ hh, elideSet_hit h A Z T rev _ (hd ▸ hh), obscure_elide,
      obscure_elide, hd]
  induction hag with
  | hidden hd hh => exact hit hd hh
  | @visible e1 e2 hs hch ih =>
    by_cases hh : (T e1.digest != rev) = true
    · exact hit hs.digest hh
    · have hh' : (T e1.digest != rev) = false := by simpa using hh
      refine hs.elim (motive := fun e1 e2 => (T e1.digest != rev) = false →
        (∀ s c1 c2, e1.child s = some c1 → e2.child s = some c2 →
          AgreeOutside (fun d => T d != rev) c1 c2) →
        (∀ s c1 c2, e1.child s = some c1 → e2.child s = some c2 →
          elideSet h A Z T rev .elide c1 = elideSet h A Z T rev .elide c2) →
        elideSet h A Z T rev .elide e1 = elideSet h A Z T rev .elide e2) ?_ ?_ ?_ ?_ ?_ ?_ ?_ ?_ hh' hch ih
      · intro s1 as1 s2 as2 d hl (hh' : (T d != rev) = false) hch ih
        rw [elideSet_node_eq h A Z T rev _ hh', elideSet_node_eq h A Z T rev _ hh',
          ih .subj s1 s2 rfl rfl, (hch .subj s1 s2 rfl rfl).digest,
          elideSetList_congr h A Z T rev .elide hl fun i a1 a2 h1 h2 =>
            ⟨ih (.assertion i) a1 a2 h1 h2, (hch (.assertion i) a1 a2 h1 h2).digest⟩]
      · intros; rfl
      · intro i1 i2 d (hh' : (T d != rev) = false) hch ih
        rw [elideSet_wrapped_eq h A Z T rev _ hh', elideSet_wrapped_eq h A Z T rev _ hh',
          ih .inner i1 i2 rfl rfl, (hch .inner i1 i2 rfl rfl).digest]
      · intro p1 o1 p2 o2 d (hh' : (T d != rev) = false) _ ih
        rw [elideSet_assertion_eq h A Z T rev _ hh', elideSet_assertion_eq h A Z T rev _ hh',
          ih .pred p1 p2 rfl rfl, ih .obj o1 o2 rfl rfl]
      · intros; rfl
      · intros; rfl
      · intros; rfl
      · intros; rfl

theorem elideSet_node_ok_iff {s : Env} {as : List Env} {d : Digest} {r : Env}
    (hh : (T d != rev) = false) :
    elideSet h A Z T rev act (.node s as d) = .ok r ↔
      ∃ s' as', elideSet h A Z T rev act s = .ok s' ∧ s'.digest = s.digest ∧
        elideSetList h A Z T rev act as = .ok as' ∧ as' ≠ [] ∧ r = mkNode h s' as' := by
  simp only [elideSet_node_eq h A Z T rev act hh, Res.bind_eq_ok, Res.ite_panic_eq_ok, bne_iff_ne, ne_eq,
    Decidable.not_not, newNodeUnchecked_eq_ok]
  constructor
  · rintro ⟨s', hs, hd, as', hl, hne, rfl⟩; exact ⟨s', as', hs, hd, hl, hne, rfl⟩
  · rintro ⟨s', as', hs, hd, hl, hne, rfl⟩; exact ⟨s', hs, hd, as', hl, hne, rfl⟩

theorem elideSetList_ok_iff {as as' : List Env} :
    elideSetList h A Z T rev act as = .ok as' ↔
      Forall₂ (fun a a' => elideSet h A Z T rev act a = .ok a' ∧ a'.digest = a.digest) as as' := by
  induction as generalizing as' with
  | nil =>
    rw [elideSetList]
    exact ⟨fun hr => by cases hr; exact .nil, fun hr => by cases hr; rfl⟩
  | cons a as ih =>
    simp only [elideSetList_cons_eq, Res.bind_eq_ok, Res.ite_panic_eq_ok, bne_iff_ne, ne_eq,
      Decidable.not_not, Res.ok.injEq]
    constructor
    · rintro ⟨a', ha, hd, bs, hl, rfl⟩; exact .cons ⟨ha, hd⟩ (ih.mp hl)
    · intro hf
      cases hf with
      | cons h1 h2 => exact ⟨_, h1.1, h1.2, _, ih.mpr h2, rfl⟩

/-- **induction over the successful runs of `elide_set_with_action`**, without hypotheses: a hit element
goes to the action; an element without children comes back as it is; any other is rebuilt (`mkNode`,
`newWrapped`, the assertion with its digest, which the code re-derives and asserts) over the results of
its children, which have kept their digests where the code asserts it -/
theorem elideSet_ok_rec {P : Env → Env → Prop}
    (hit : ∀ {e r}, (T e.digest != rev) = true → obscure A Z act e = .ok r → P e r)
    (atom : ∀ {e}, e.children = [] → P e e)
    (node : ∀ {s as d s' as'}, P s s' → s'.digest = s.digest →
      Forall₂ (fun a a' => P a a' ∧ a'.digest = a.digest) as as' → as' ≠ [] →
      P (.node s as d) (mkNode h s' as'))
    (wrapped : ∀ {e d e'}, P e e' → e'.digest = e.digest → P (.wrapped e d) (newWrapped h e'))
    (assertion : ∀ {p o d p' o'}, P p p' → P o o' → h.ofDigests [p'.digest, o'.digest] = d →
      P (.assertion p o d) (.assertion p' o' d)) :
    ∀ {e r}, elideSet h A Z T rev act e = .ok r → P e r := by
  intro e
  induction e using Env.induct_kids with
  | H e ih =>
    intro r hr
    by_cases hh : (T e.digest != rev) = true
    · rw [elideSet_hit h A Z T rev act hh] at hr; exact hit hh hr
    · have hh' : (T e.digest != rev) = false := by simpa using hh
      cases e with
      | node s as d =>
        obtain ⟨s', as', hs, hd, hl, hne, rfl⟩ := (elideSet_node_ok_iff h A Z T rev act hh').1 hr
        exact node (ih s List.mem_cons_self hs) hd
          (((elideSetList_ok_iff h A Z T rev act).1 hl).imp fun a a' ha hr =>
            ⟨ih a (List.mem_cons_of_mem _ ha) hr.1, hr.2⟩) hne
      | wrapped e d =>
        rw [elideSet_wrapped_eq h A Z T rev act (d := d) hh'] at hr
        obtain ⟨e', he, hr⟩ := Res.bind_eq_ok.1 hr
        obtain ⟨hd, hr⟩ := Res.ite_panic_eq_ok.1 hr
        cases hr
        exact wrapped (ih e List.mem_cons_self he) (by simpa using hd)
      | assertion p o d =>
        rw [elideSet_assertion_eq h A Z T rev act (d := d) hh'] at hr
        obtain ⟨p', hp, hr⟩ := Res.bind_eq_ok.1 hr
        obtain ⟨o', ho, hr⟩ := Res.bind_eq_ok.1 hr
        split at hr
        · rename_i hd
          cases hr
          have hd' : h.ofDigests [p'.digest, o'.digest] = d := beq_iff_eq.1 hd
          rw [newAssertion, hd']
          exact assertion (ih p List.mem_cons_self hp)
            (ih o (List.mem_cons_of_mem _ List.mem_cons_self) ho) hd'
        · cases hr
      | _ =>
        rw [elideSet_miss_atom h A Z T rev act rfl hh'] at hr
        cases hr; exact atom rfl

end

section
variable (T : Digest → Bool) (rev : Bool) (f : Env → Env)

mutual
/-- the obscuring traversal without its checks: a hit element is replaced by `f` of it, any other keeps
its shell (and its cached digest) over the images of its children -/
def elideP : Env → Env
  | .node s as d => if T d != rev then f (.node s as d) else .node (elideP s) (elidePL as) d
  | .wrapped e d => if T d != rev then f (.wrapped e d) else .wrapped (elideP e) d
  | .assertion p o d => if T d != rev then f (.assertion p o d) else .assertion (elideP p) (elideP o) d
  | e => if T e.digest != rev then f e else e
def elidePL : List Env → List Env
  | [] => []
  | a :: as => elideP a :: elidePL as
end

theorem elidePL_eq_map (as : List Env) : elidePL T rev f as = as.map (elideP T rev f) := by
  induction as with
  | nil => rfl
  | cons a as ih => simp only [elidePL, List.map_cons, ih]

theorem elideP_eq (e : Env) :
    elideP T rev f e = if T e.digest != rev then f e else e.mapKids (elideP T rev f) := by
  cases e <;> simp only [elideP, elidePL_eq_map] <;> rfl

theorem elideP_hit {e : Env} (hh : (T e.digest != rev) = true) : elideP T rev f e = f e := by
  rw [elideP_eq, if_pos hh]

variable {T rev f}

theorem elideP_miss {e : Env} (hh : (T e.digest != rev) = false) :
    elideP T rev f e = e.mapKids (elideP T rev f) := by
  rw [elideP_eq, hh]; rfl

theorem elideP_digest (hf : ∀ x, (f x).digest = x.digest) (e : Env) :
    (elideP T rev f e).digest = e.digest := by
  rw [elideP_eq]
  split
  · exact hf e
  · exact e.mapKids_digest _

theorem elideP_child {e : Env} (hh : (T e.digest != rev) = false) (s : Step) :
    (elideP T rev f e).child s = (e.child s).map (elideP T rev f) := by
  rw [elideP_miss hh]; exact e.mapKids_child _ s

theorem elideP_untouched {e : Env} (hu : ∀ x ∈ elements e, (T x.digest != rev) = false) :
    elideP T rev f e = e := by
  induction e using Env.induct_kids with
  | H e ih =>
    rw [elideP_miss (hu e (self_mem_elements e))]
    refine Env.mapKids_eq_self_of_children ((List.map_congr_left fun c hc => ?_).trans (List.map_id _))
    exact ih c hc fun x hx => hu x (by
      rw [elements_eq e]; exact List.mem_cons_of_mem _ (List.mem_flatMap.2 ⟨c, hc, hx⟩))

end

section
variable (h : Hash) (A : Aead) (Z : Deflate) (T : Digest → Bool) (rev : Bool) (act : Action)

theorem elideSetList_eq_map {g : Env → Env} : ∀ {as : List Env},
    (∀ a ∈ as, elideSet h A Z T rev act a = .ok (g a) ∧ (g a).digest = a.digest) →
    elideSetList h A Z T rev act as = .ok (as.map g)
  | [], _ => rfl
  | a :: as, hg => by
    have ⟨h1, h2⟩ := hg a (List.mem_cons_self ..)
    simp only [elideSetList, h1, h2, bne_self_eq_false, Bool.false_eq_true, if_false, List.map_cons,
      elideSetList_eq_map fun b hb => hg b (List.mem_cons_of_mem _ hb)]

/-- see at `ActOk` -/
def ActOkHits (e : Env) : Prop :=
  ∀ p x, e.at p = some x → (T x.digest != rev) = true → ActOkAt act x.digest

variable {T rev act}

theorem ActOkHits.children {e c : Env} (ha : ActOkHits T rev act e) (hc : c ∈ e.children) :
    ActOkHits T rev act c :=
  have ⟨s, hs⟩ := Env.mem_children_iff.1 hc
  fun p x hx => ha (s :: p) x (by rw [Env.at_cons_of_child hs]; exact hx)

theorem ActOk.at_pos {e y : Env} {p : Path} (ha : ActOk act e) (hy : e.at p = some y) :
    ActOkAt act y.digest := by
  cases act with
  | encrypt k n => exact ha p y hy
  | _ => trivial

theorem ActOk.hits {e : Env} (ha : ActOk act e) : ActOkHits T rev act e :=
  fun _ _ hx _ => ha.at_pos hx

variable (T rev act)

/-- one step on an element that is not hit, given the results on its children (digests kept): under the
invariant no `assert!` fires, and the re-sort and the re-hash are the identity -/
theorem elideSet_miss_of_kids {e : Env} {g : Env → Env} (hi : Inv h e)
    (hh : (T e.digest != rev) = false)
    (hg : ∀ c ∈ e.children, elideSet h A Z T rev act c = .ok (g c) ∧ (g c).digest = c.digest) :
    elideSet h A Z T rev act e = .ok (e.mapKids g) := by
  cases e with
  | node s as d =>
    have hs := hg s List.mem_cons_self
    have has := fun a ha => hg a (List.mem_cons_of_mem _ ha)
    have hm : (as.map g).map Env.digest = as.map Env.digest := by
      rw [List.map_map]; exact List.map_congr_left fun a ha => (has a ha).2
    rw [elideSet_node_eq h A Z T rev act (d := d) hh, hs.1, Res.ok_bind, hs.2, bne_self_eq_false,
      if_neg Bool.false_ne_true, elideSetList_eq_map h A Z T rev act has, Res.ok_bind,
      newNodeUnchecked_eq h (by simpa using hi.2.assertions_ne_nil),
      mkNode_of_wf h hi.1 hi.2.asc hs.2 hm]
    rfl
  | wrapped e d =>
    have he := hg e List.mem_cons_self
    rw [elideSet_wrapped_eq h A Z T rev act (d := d) hh, he.1, Res.ok_bind, he.2, bne_self_eq_false,
      if_neg Bool.false_ne_true, newWrapped, he.2, ← ((WF_wrapped ..).1 hi.1).2]
    rfl
  | assertion p o d =>
    have hp := hg p List.mem_cons_self
    have ho := hg o (List.mem_cons_of_mem _ List.mem_cons_self)
    rw [elideSet_assertion_eq h A Z T rev act (d := d) hh, hp.1, ho.1, Res.ok_bind, Res.ok_bind,
      newAssertion, hp.2, ho.2, ← ((WF_assertion ..).1 hi.1).2.2]
    exact if_pos (beq_self_eq_true d)
  | _ => exact elideSet_miss_atom h A Z T rev act rfl hh

/-- **the traversal in closed form** under the invariant (and, for `encrypt`, `ActOkHits`): the pure
replacement of the topmost hit elements by their placeholders -/
theorem elideSet_eq {e : Env} (hi : Inv h e) (ha : ActOkHits T rev act e) :
    elideSet h A Z T rev act e = .ok (elideP T rev (placeholder A Z act) e) := by
  induction e using Env.induct_kids with
  | H e ih =>
    by_cases hh : (T e.digest != rev) = true
    · rw [elideSet_hit h A Z T rev act hh, elideP_hit T rev _ hh]
      exact obscure_eq A Z (ha [] e rfl hh)
    · have hh' : (T e.digest != rev) = false := by simpa using hh
      rw [elideP_miss hh']
      exact elideSet_miss_of_kids h A Z T rev act hi hh' fun c hc =>
        ⟨ih c hc (hi.children hc) (ha.children hc), elideP_digest (placeholder_digest A Z act) c⟩

variable {T rev act}

theorem elideSet_ok_eq {e r : Env} (hi : Inv h e) (ha : ActOk act e)
    (hr : elideSet h A Z T rev act e = .ok r) : r = elideP T rev (placeholder A Z act) e := by
  rw [elideSet_eq h A Z T rev act hi ha.hits] at hr
  cases hr
  rfl

variable (T rev act)

theorem elideSet_isOk {e : Env} (hi : Inv h e) (ha : ActOk act e) :
    ∃ r, elideSet h A Z T rev act e = .ok r :=
  ⟨_, elideSet_eq h A Z T rev act hi ha.hits⟩

theorem elideSet_untouched (e : Env) (hi : Inv h e)
    (hu : ∀ x ∈ elements e, (T x.digest != rev) = false) : elideSet h A Z T rev act e = .ok e := by
  rw [elideSet_eq h A Z T rev act hi (fun p x hx hh => by rw [hu x (at_mem_elements hx)] at hh; cases hh),
    elideP_untouched hu]

end

section
variable (T : Digest → Bool) (rev : Bool)

/-- no element strictly above position `p` is hit -/
def NoHitAbove (e : Env) (p : Path) : Prop :=
  ∀ q, q <+: p → q ≠ p → ∀ z, e.at q = some z → (T z.digest != rev) = false

theorem noHitAbove_nil (e : Env) : NoHitAbove T rev e [] := by
  intro q hq hne; exact absurd (List.prefix_nil.mp hq) hne

theorem noHitAbove_cons {e c : Env} {s : Step} (hc : e.child s = some c) (p : Path) :
    NoHitAbove T rev e (s :: p) ↔ (T e.digest != rev) = false ∧ NoHitAbove T rev c p := by
  constructor
  · intro hn
    refine ⟨hn [] (List.nil_prefix) (by simp) e rfl, ?_⟩
    intro q hq hne z hz
    exact hn (s :: q) (List.cons_prefix_cons.mpr ⟨rfl, hq⟩) (by simpa using hne) z
      (by rw [Env.at_cons_of_child hc]; exact hz)
  · rintro ⟨he, hn⟩ q hq hne z hz
    rcases List.prefix_cons_iff.mp hq with rfl | ⟨t, rfl, ht⟩
    · simp at hz; subst hz; exact he
    · rw [Env.at_cons_of_child hc] at hz
      exact hn t ht (by simpa using hne) z hz

/-- a topmost hit: `y` at position `p` is hit and nothing above it is -/
def TopHit (e : Env) (p : Path) (y : Env) : Prop :=
  e.at p = some y ∧ (T y.digest != rev) = true ∧ NoHitAbove T rev e p

end

section
variable {T : Digest → Bool} {rev : Bool} {f : Env → Env}

/-- where nothing strictly above is hit, the image holds the image of the original element; every other
position of the image is empty when `f` returns obscured elements (`elideP_at_below`, `elideP_at_none`) -/
theorem elideP_at {e : Env} {p : Path} (hn : NoHitAbove T rev e p) :
    (elideP T rev f e).at p = (e.at p).map (elideP T rev f) := by
  induction p generalizing e with
  | nil => rfl
  | cons s p ih =>
    rw [Env.at_cons, Env.at_cons, elideP_child (hn [] List.nil_prefix (by simp) e rfl)]
    cases hc : e.child s with
    | none => rfl
    | some c => exact ih ((noHitAbove_cons T rev hc p).mp hn).2

theorem elideP_at_below {e y : Env} {p : Path} (hfo : ∀ x, (f x).isObscured = true)
    (hn : NoHitAbove T rev e p) (hy : e.at p = some y) (hh : (T y.digest != rev) = true)
    (s : Step) (q : Path) : (elideP T rev f e).at (p ++ s :: q) = none := by
  rw [Env.at_append, elideP_at hn, hy, Option.map_some, Option.bind_some, elideP_hit T rev f hh]
  exact Env.at_cons_none_of_isObscured (hfo y) s q

theorem elideP_at_none {e : Env} {p : Path} (hfo : ∀ x, (f x).isObscured = true)
    (hn : ¬ NoHitAbove T rev e p) : (elideP T rev f e).at p = none := by
  induction p generalizing e with
  | nil => exact absurd (noHitAbove_nil T rev e) hn
  | cons s p ih =>
    by_cases hh : (T e.digest != rev) = true
    · rw [elideP_hit T rev f hh]; exact Env.at_cons_none_of_isObscured (hfo e) s p
    · have hh' : (T e.digest != rev) = false := by simpa using hh
      rw [Env.at_cons, elideP_child hh']
      cases hc : e.child s with
      | none => rfl
      | some c => exact ih fun hn' => hn ((noHitAbove_cons T rev hc p).mpr ⟨hh', hn'⟩)

end

section
variable (h : Hash) (A : Aead) (Z : Deflate) (T : Digest → Bool) (rev : Bool) (act : Action)

/-- the specification for both modes at once: `T d = rev` says that the element of digest `d` is not
hit, `T d = !rev` that it is (the three parts are spelled out at `removing_spec`, Props/C03.lean) -/
theorem elideSet_spec {e r : Env} (hi : Inv h e) (ha : ActOk act e)
    (hr : elideSet h A Z T rev act e = .ok r) :
    ∀ p y, e.at p = some y →
      ((∀ q, q <+: p → ∀ z, e.at q = some z → T z.digest = rev) →
        ∃ x, r.at p = some x ∧ ShallowEq x y) ∧
      (T y.digest = !rev →
        (∀ q, q <+: p → q ≠ p → ∀ z, e.at q = some z → T z.digest = rev) →
        ∃ x, r.at p = some x ∧ IsPlaceholder A Z act y x ∧ ∀ s q, r.at (p ++ s :: q) = none) ∧
      ((∃ q z, q <+: p ∧ q ≠ p ∧ e.at q = some z ∧ T z.digest = !rev) → r.at p = none) := by
  obtain rfl := elideSet_ok_eq h A Z hi ha hr
  have hfo := placeholder_isObscured A Z act
  have miss : ∀ d, T d = rev → (T d != rev) = false := fun d hd => by
    rw [hd]; exact bne_self_eq_false rev
  intro p y hy
  refine ⟨fun hn => ?_, fun hh hn => ?_, ?_⟩
  · have hna : NoHitAbove T rev e p := fun q hq _ z hz => miss _ (hn q hq z hz)
    refine ⟨_, by rw [elideP_at hna, hy]; rfl, ?_⟩
    rw [elideP_miss (miss _ (hn p (List.prefix_refl p) y hy))]
    exact y.mapKids_shallowEq _
  · have hna : NoHitAbove T rev e p := fun q hq hne z hz => miss _ (hn q hq hne z hz)
    have hh' : (T y.digest != rev) = true := by rw [hh]; cases rev <;> rfl
    exact ⟨_, by rw [elideP_at hna, hy, Option.map_some, elideP_hit T rev _ hh'],
      (isPlaceholder_iff A Z).2 rfl, elideP_at_below hfo hna hy hh'⟩
  · rintro ⟨q, z, hq, hne, hz, hhit⟩
    refine elideP_at_none hfo fun hna => ?_
    have := hna q hq hne z hz
    rw [hhit] at this
    cases rev <;> cases this

theorem elideSet_present_iff {e r : Env} (hi : Inv h e) (ha : ActOk act e)
    (hr : elideSet h A Z T rev act e = .ok r) {p : Path} {y : Env} (hy : e.at p = some y) :
    (∃ x, r.at p = some x) ↔ NoHitAbove T rev e p := by
  obtain rfl := elideSet_ok_eq h A Z hi ha hr
  refine ⟨fun ⟨x, hx⟩ => Classical.byContradiction fun hn => ?_,
    fun hn => ⟨_, by rw [elideP_at hn, hy]; rfl⟩⟩
  rw [elideP_at_none (placeholder_isObscured A Z act) hn] at hx
  cases hx

/-- the pointwise relation produced by the list traversal -/
abbrev ElemRel (a a' : Env) : Prop := elideSet h A Z T rev act a = .ok a' ∧ a'.digest = a.digest

theorem SigL.elideSetList_untouched : (as : List Env) → WFList h as → CanonList as →
    (∀ x ∈ elementsList as, (T x.digest != rev) = false) →
    Forall₂ (ElemRel h A Z T rev act) as as
  | [], _, _, _ => .nil
  | a :: as, hw, hc, hu => by
    simp only [WFList] at hw
    simp only [CanonList] at hc
    exact .cons ⟨elideSet_untouched h A Z T rev act a ⟨hw.1, hc.1⟩
        (fun x hx => hu x (by simp [elementsList, hx])), rfl⟩
      (SigL.elideSetList_untouched as hw.2 hc.2 (fun x hx => hu x (by simp [elementsList, hx])))

/-- in a node that is not itself hit, an assertion element none of whose sub-elements is hit is still
there, identically; no hypothesis on the action is needed -/
theorem elideSet_node_keeps {e r : Env} (hi : Inv h e) (hn : e.isNode = true)
    (hroot : (T e.digest != rev) = false) (hr : elideSet h A Z T rev act e = .ok r) :
    r.subject.digest = e.subject.digest ∧
      ∀ a ∈ e.assertions, (∀ x ∈ elements a, (T x.digest != rev) = false) → a ∈ r.assertions := by
  cases e with
  | node s as d =>
    obtain ⟨s', as', _, hd, hl, _, rfl⟩ := (elideSet_node_ok_iff h A Z T rev act hroot).1 hr
    refine ⟨hd, fun a ha hu => mem_sortByDigest.2 ?_⟩
    obtain ⟨i, hia⟩ := List.getElem?_of_mem ha
    obtain ⟨b, hib, hb, _⟩ := ((elideSetList_ok_iff h A Z T rev act).1 hl).getElem?_left hia
    rw [elideSet_untouched h A Z T rev act a (hi.assertions ha) hu] at hb
    cases hb
    exact List.mem_of_getElem? hib
  | _ => cases hn

end

/-- the node over `s` and `as` with its digest computed from them in the stored order -/
def nodeOf (h : Hash) (s : Env) (as : List Env) : Env :=
  .node s as (h.ofDigests (s.digest :: as.map Env.digest))

namespace Sample
open Env

/-- toy hash: the sum of the bytes -/
def toyH : Hash := ⟨fun b => ⟨b.foldl (fun a x => a + x.toNat) 0⟩⟩

def lf (n : Nat) : Env := newLeaf toyH (.uint n)
/-- `1: 2`, digest 3 -/
def a1 : Env := newAssertion toyH (lf 1) (lf 2)
/-- `1: 4`, digest 5 -/
def a2 : Env := newAssertion toyH (lf 1) (lf 4)
/-- `7 [1: 2, 1: 4]`, digest 15 -/
def e0 : Env := nodeOf toyH (lf 7) [a1, a2]
/-- `7 [ELIDED(3), 1: 4]`: the first assertion replaced by an elided element of its digest; digest 15 -/
def e0' : Env := nodeOf toyH (lf 7) [.elided ⟨3⟩, a2]
/-- `{ 7 [1: 2, 1: 4] }` -/
def w0 : Env := newWrapped toyH e0

theorem lf_digest_1 : (lf 1).digest = ⟨1⟩ := by decide
theorem lf_digest_2 : (lf 2).digest = ⟨2⟩ := by decide
theorem lf_digest_4 : (lf 4).digest = ⟨4⟩ := by decide
theorem lf_digest_7 : (lf 7).digest = ⟨7⟩ := by decide
theorem a1_digest : a1.digest = ⟨3⟩ := by decide +kernel
theorem a2_digest : a2.digest = ⟨5⟩ := by decide +kernel
theorem e0_digest : e0.digest = ⟨15⟩ := by
  rw [show e0.digest = toyH.ofDigests [(lf 7).digest, a1.digest, a2.digest] from rfl, lf_digest_7,
    a1_digest, a2_digest]
  decide +kernel

theorem inv_lf (n : Nat) : Inv toyH (lf n) := Inv.newLeaf ..

theorem inv_e0 : Inv toyH e0 :=
  AW.rebuild_inv (as := [a1, a2]) (inv_lf 7)
    (List.forall_mem_cons.2 ⟨(inv_lf 1).newAssertion (inv_lf 2),
      List.forall_mem_singleton.2 ((inv_lf 1).newAssertion (inv_lf 4))⟩)
    (by simp [AscDigests, a1_digest, a2_digest]) (by decide)

theorem inv_w0 : Inv toyH w0 := inv_e0.newWrapped

theorem elements_e0 : elements e0 = [e0, lf 7, a1, lf 1, lf 2, a2, lf 1, lf 4] := by
  simp only [e0, nodeOf, a1, a2, lf, newLeaf, newAssertion, elements, elementsList,
    List.append_nil, List.cons_append, List.nil_append]

theorem digests_e0 : ∀ x ∈ elements e0, x.digest.val < 16 := by
  rw [elements_e0]
  intro x hx
  simp only [List.mem_cons, List.not_mem_nil, or_false] at hx
  rcases hx with rfl | rfl | rfl | rfl | rfl | rfl | rfl | rfl <;>
    simp only [e0_digest, a1_digest, a2_digest, lf_digest_1, lf_digest_2, lf_digest_4, lf_digest_7] <;>
    decide

/-- every digest in the sample is small -/
theorem actOk_e0 (act : Action) : ActOk act e0 := by
  cases act with
  | encrypt k n =>
    intro p x hx
    exact aadOk_of_valid (Nat.lt_trans (digests_e0 x (at_mem_elements hx)) (by decide))
  | _ => trivial

/-- target set: the digest of the first assertion of `e0` -/
def T3 : Digest → Bool := fun d => d == ⟨3⟩

theorem e0'_digest : e0'.digest = ⟨15⟩ := by
  rw [show e0'.digest = toyH.ofDigests [(lf 7).digest, ⟨3⟩, a2.digest] from rfl, lf_digest_7, a2_digest]
  decide +kernel

theorem agree_e0_e0' : AgreeOutside T3 e0 e0' := by
  apply AgreeOutside.visible
  · exact ⟨e0_digest.trans e0'_digest.symm, rfl⟩
  · intro s c1 c2 h1 h2
    cases s <;> simp only [e0, e0', nodeOf, Env.child, reduceCtorEq] at h1 h2
    · cases h1; cases h2; exact AgreeOutside.refl _ _
    · rename_i i
      match i with
      | 0 =>
        simp at h1 h2; subst h1; subst h2
        exact AgreeOutside.hidden a1_digest (by rw [a1_digest]; rfl)
      | 1 => simp at h1 h2; subst h1; subst h2; exact AgreeOutside.refl _ _
      | n + 2 => simp at h1

theorem e0_ne_e0' : e0 ≠ e0' := by
  intro he
  simp only [e0, e0', nodeOf, a1, newAssertion, Env.node.injEq, List.cons.injEq, reduceCtorEq,
    false_and, and_false] at he

/-- order-sensitive toy hash -/
def ordH : Hash := ⟨fun b => ⟨beNat b⟩⟩
def x0 : Env := .elided ⟨0⟩
def x1 : Env := .elided ⟨1⟩
def x2 : Env := .elided ⟨2⟩
/-- well-formed (every cached digest is the hash of the children in stored order) but the
assertions are stored in descending digest order -/
def cex : Env := nodeOf ordH x0 [x2, x1]

theorem cex_wf : WF ordH cex := by
  simp only [cex, nodeOf, WF, WFList, x0, x1, x2, and_self]

theorem sort_x2_x1 : sortByDigest [x2, x1] = [x1, x2] := by
  simp [sortByDigest, List.mergeSort, x1, x2, digestLe, Env.digest]

section
variable (A : Aead) (Z : Deflate)
theorem cex_run : elideSet ordH A Z (fun _ => false) false .elide cex = .ok (nodeOf ordH x0 [x1, x2]) := by
  rw [cex, nodeOf, elideSet_node_ok_iff ordH A Z _ _ _ rfl]
  refine ⟨x0, [x2, x1], rfl, rfl, rfl, by simp, ?_⟩
  simp only [mkNode, sort_x2_x1, nodeOf]

theorem cex_digest_ne : (nodeOf ordH x0 [x1, x2]).digest ≠ cex.digest := by decide +kernel

theorem cex_wrapped_panics : elideSet ordH A Z (fun _ => false) false .elide (newWrapped ordH cex) =
    .panic "elide.rs:elide_set_with_action:assert-wrapped" := by
  have hne : ((nodeOf ordH x0 [x1, x2]).digest != cex.digest) = true := by
    simpa using cex_digest_ne
  simp only [newWrapped, elideSet, cex_run, hne]
  rfl
end
end Sample
end EnvVerif
