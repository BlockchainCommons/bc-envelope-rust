/-
  Lemmas/InvLemmas.lean — what C01 / C04 rest on: the operation language `Op` / `applyOp` /
  `runHistory` / `Produced`, `erase` and `recompute`; what the operations return, in the form the
  invariant is read off (results built by `mkNode`, `withSubject`, the decoder); the induction over
  histories; the toy instances and the plain samples of the examples.
-/
import EnvVerif.Lemmas.AssembleLemmas
import EnvVerif.Lemmas.ObscureLemmas
namespace EnvVerif
open Env

/-- the public operations of the history language (none for salt, signature, recipient, type or
attachment) with their arguments; the receiver is the current envelope -/
inductive Op where
  | addAssertion (a : Env)
  | removeAssertion (target : Env)
  | replaceAssertion (a b : Env)
  | replaceSubject (s : Env)
  | addAll (as : List Env)
  | assertionWithObject (o : Env)          -- `Envelope::new_assertion(receiver, o)`
  | assertionWithPredicate (p : Env)       -- `Envelope::new_assertion(p, receiver)`
  | wrap
  | unwrap
  | subject
  | elide
  | elideSet (T : Digest → Bool) (revealing : Bool) (act : Action)
  | compress
  | compressSubject
  | encryptSubject (key nonce : Bytes)
  | encryptWhole (key nonce : Bytes)
  | unelide (original : Env)               -- the receiver is the placeholder
  -- operations that decode bytes
  | decodeBytes (b : Bytes)                -- ignores the receiver
  | reencode                               -- `decode (encode receiver)`
  | uncompress
  | uncompressSubject
  | decryptSubject (key : Bytes)
  | decryptWhole (key : Bytes)

def Op.args : Op → List Env
  | .addAssertion a => [a]
  | .removeAssertion t => [t]
  | .replaceAssertion a b => [a, b]
  | .replaceSubject s => [s]
  | .addAll as => as
  | .assertionWithObject o => [o]
  | .assertionWithPredicate p => [p]
  | .unelide o => [o]
  | _ => []

def Op.decoding : Op → Bool
  | .decodeBytes _ | .reencode | .uncompress | .uncompressSubject | .decryptSubject _
  | .decryptWhole _ => true
  | _ => false

section
variable (h : Hash) (A : Aead) (Z : Deflate)

def applyOp : Op → Env → Res Env
  | .addAssertion a, e => addAssertionEnvelope h e a
  | .removeAssertion t, e => removeAssertion h e t
  | .replaceAssertion a b, e => replaceAssertion h e a b
  | .replaceSubject s, e => replaceSubject h e s
  | .addAll as, e => addAll h e as
  | .assertionWithObject o, e => .ok (newAssertion h e o)
  | .assertionWithPredicate p, e => .ok (newAssertion h p e)
  | .wrap, e => .ok (wrap h e)
  | .unwrap, e => unwrap e
  | .subject, e => .ok e.subject
  | .elide, e => .ok (elide e)
  | .elideSet T rev act, e => elideSet h A Z T rev act e
  | .compress, e => compress Z e
  | .compressSubject, e => compressSubject h Z e
  | .encryptSubject key nonce, e => encryptSubject h A key nonce e
  | .encryptWhole key nonce, e => encryptWhole h A key nonce e
  | .unelide o, e => unelide e o
  | .decodeBytes b, _ => decode h b
  | .reencode, e => decode h (encode e)
  | .uncompress, e => uncompress h Z e
  | .uncompressSubject, e => uncompressSubject h Z e
  | .decryptSubject key, e => decryptSubject h A key e
  | .decryptWhole key, e => decryptWhole h A key e

/-- the results of running a history from `e`: one entry per executed step, the run stops
at the first step that does not return an envelope -/
def runHistory (e : Env) : List Op → List (Res Env)
  | [] => []
  | o :: os =>
    match applyOp h A Z o e with
    | .ok r => .ok r :: runHistory r os
    | x => [x]

/-- everything the library can produce with the operations of `Op`: closed under the constructors
and these operations, arguments included (`dec = false` excludes the operations that run the decoder) -/
inductive Produced (dec : Bool) : Env → Prop
  | leaf (c : Cbor) : Produced dec (newLeaf h c)
  | knownValue (v : Nat) : Produced dec (newKnownValue h v)
  | elided (d : Digest) : d.Valid → Produced dec (newElided d)
  | op (o : Op) (e r : Env) : Produced dec e → (∀ a ∈ o.args, Produced dec a) →
      (dec = false → o.decoding = false) → applyOp h A Z o e = .ok r → Produced dec r

end

mutual
/-- the content of an envelope: cached digests of node / leaf / wrapped / assertion /
known value are forgotten, declared digests of elided / encrypted / compressed are kept -/
def erase : Env → Env
  | .node s as _ => .node (erase s) (eraseList as) ⟨0⟩
  | .leaf c _ => .leaf c ⟨0⟩
  | .wrapped e _ => .wrapped (erase e) ⟨0⟩
  | .assertion p o _ => .assertion (erase p) (erase o) ⟨0⟩
  | .elided d => .elided d
  | .knownValue v _ => .knownValue v ⟨0⟩
  | .encrypted m d => .encrypted m d
  | .compressed c d => .compressed c d
def eraseList : List Env → List Env
  | [] => []
  | a :: as => erase a :: eraseList as
end

theorem eraseList_eq (as : List Env) : eraseList as = as.map erase := by
  induction as with
  | nil => rfl
  | cons a as ih => simp only [eraseList, ih, List.map_cons]

/-- the digest recomputed from the immediate children of an element (from the digests
they report), resp. the declared digest of an obscured element -/
def recompute (h : Hash) : Env → Digest
  | .node s as _ => h.ofDigests (s.digest :: as.map Env.digest)
  | .leaf c _ => h.H c.enc
  | .wrapped e _ => h.ofDigests [e.digest]
  | .assertion p o _ => h.ofDigests [p.digest, o.digest]
  | .elided d => d
  | .knownValue v _ => h.H (knownValueCbor v).enc
  | .encrypted m d => m.optDigest.getD d
  | .compressed _ d => d

/-- the argument condition of a history, over the concatenation of the argument lists: for a
concrete history that is a concrete list, found by unfolding, where `simp` would take `Op.args`
apart operation by operation -/
theorem forall_args_of_flatMap {P : Env → Prop} {ops : List Op}
    (H : ∀ a ∈ ops.flatMap Op.args, P a) : ∀ o ∈ ops, ∀ a ∈ o.args, P a :=
  fun o ho a ha => H a (List.mem_flatMap.2 ⟨o, ho, ha⟩)

/- lemmas and sample data live in `EnvVerif.InvL` so that they cannot collide with the helpers of
other properties -/
namespace InvL

section
variable (h : Hash) (A : Aead) (Z : Deflate)

theorem replaceAssertion_isOk (e a : Env) {b : Env} (hs : b.slotOk = true) :
    ∃ r, replaceAssertion h e a b = .ok r := by
  rw [replaceAssertion, AW.removeAssertion_eq]
  exact AW.add_isOk h _ hs

theorem addAll_isOk (as : List Env) : ∀ (e : Env), (∀ a ∈ as, a.slotOk = true) →
    ∃ r, addAll h e as = .ok r :=
  AW.addAll_isOk h as

theorem replaceSubject_isOk {e : Env} (s : Env) (hs : ∀ a ∈ e.assertions, a.slotOk = true) :
    ∃ r, replaceSubject h e s = .ok r := by
  rw [AW.replaceSubject_eq, if_pos (List.all_eq_true.2 hs)]; exact AW.addAll_isOk h _ s hs

theorem compress_no_panic {e : Env} {x : String} : compress Z e ≠ .panic x :=
  compress_not_panic Z e x

variable {h A Z}

theorem replaceSubject_ok {e s r : Env} (hr : replaceSubject h e s = .ok r) :
    addAll h s e.assertions = .ok r := by
  rw [AW.replaceSubject_eq] at hr
  split at hr
  · exact hr
  · cases hr

theorem obscure_compress_ok {e r : Env} (hr : obscure A Z .compress e = .ok r) :
    (∃ c, r = .compressed c e.digest) ∨ (r = e ∧ e.isObscured = true) := by
  simp only [obscure] at hr
  split at hr
  · cases hr; exact .inl (compress_ok Z ‹_›)
  · cases hr; rename_i hx
    exact .inr ⟨rfl, by cases e <;> first | rfl | cases hx⟩
  · cases hr

theorem obscure_encrypt_ok {key : Bytes} {nonce : Digest → Bytes} {e r : Env}
    (hr : obscure A Z (.encrypt key nonce) e = .ok r) :
    ∃ m d, r = .encrypted m d ∧ m.optDigest = some d := by
  /- `obscure` is unfolded in `hr` first: given the folded call, the unifier unfolds
  `newEncryptedUnwrap (encryptWithDigest ..)` and runs the CBOR decoder on the symbolic additional data -/
  simp only [obscure] at hr
  obtain ⟨d, h1, h2⟩ := newEncryptedUnwrap_ok hr
  exact ⟨_, d, h2, h1⟩

theorem obscure_ok {act : Action} {e r : Env} (hr : obscure A Z act e = .ok r) :
    r = .elided e.digest ∨ (∃ m d, r = .encrypted m d ∧ m.optDigest = some d) ∨
      (∃ c, r = .compressed c e.digest) ∨ (r = e ∧ e.isObscured = true) := by
  cases act with
  | elide => simp only [obscure, elide_eq] at hr; cases hr; exact .inl rfl
  | encrypt k n => exact .inr (.inl (obscure_encrypt_ok hr))
  | compress => exact .inr (.inr (obscure_compress_ok hr))

theorem withSubject_ok {e s r : Env} (hr : withSubject h e s = .ok r) :
    r = s ∨ ∃ s0 as d, e = .node s0 as d ∧ as ≠ [] ∧ r = mkNode h s as := by
  cases e with
  | node s0 as d =>
    obtain ⟨hne, rfl⟩ := (newNodeUnchecked_eq_ok h).1 hr
    exact .inr ⟨s0, as, d, rfl, hne, rfl⟩
  | _ => cases hr; exact .inl rfl

theorem withSubject_wf {e s r : Env} (he : WF h e) (hs : WF h s) (hr : withSubject h e s = .ok r) :
    WF h r := by
  obtain rfl | ⟨s0, as, d, rfl, _, rfl⟩ := withSubject_ok hr
  · exact hs
  · exact (WF_mkNode h).2 ⟨hs, he.assertions⟩

theorem withSubject_canon {e s r : Env} (he : Canon e) (hs : Canon s)
    (hr : withSubject h e s = .ok r) : Canon r := by
  obtain rfl | ⟨s0, as, d, rfl, hne, rfl⟩ := withSubject_ok hr
  · exact hs
  · exact Canon_mkNode h hs he.assertions hne he.asc.distinct he.slotOk

theorem encryptSubject_withSubject {key nonce : Bytes} {e r : Env}
    (hr : encryptSubject h A key nonce e = .ok r) :
    ∃ m d, m.optDigest = some d ∧ withSubject h e (.encrypted m d) = .ok r := by
  rw [encryptSubject_step] at hr
  split at hr
  · cases hr
  · obtain ⟨es, hes, hr⟩ := Res.bind_eq_ok.1 hr
    obtain ⟨x, hx, hr⟩ := Res.bind_eq_ok.1 hr
    obtain ⟨d, hd, hes⟩ := newEncryptedUnwrap_ok hes
    rw [hes] at hx
    exact ⟨_, d, hd, (encFinish_eq_ok.1 hr).1 ▸ hx⟩

theorem decode_inv {b : Bytes} {e : Env} (he : decode h b = .ok e) : Inv h e :=
  ((decode_sat h b).of_ok he).2.1

theorem uncompress_inv {e r : Env} (hr : uncompress h Z e = .ok r) : Inv h r := by
  obtain ⟨_, _, _, _, _, hd, _⟩ := Obs.uncompress_ok h Z hr
  exact decode_inv hd

theorem uncompressSubject_withSubject {e r : Env} (hr : uncompressSubject h Z e = .ok r) :
    r = e ∨ ∃ s, Inv h s ∧ withSubject h e s = .ok r := by
  rw [uncompressSubject_eq] at hr
  split at hr
  · obtain ⟨s, h1, h2⟩ := Res.bind_eq_ok.1 hr
    exact .inr ⟨s, uncompress_inv h1, h2⟩
  · cases hr; exact .inl rfl

theorem decryptSubject_withSubject {key : Bytes} {e r : Env} (hr : decryptSubject h A key e = .ok r) :
    ∃ s, Inv h s ∧ withSubject h e s = .ok r := by
  obtain ⟨_, _, _, rs, _, _, _, hd, hw, _⟩ := Obs.decryptSubject_ok h A hr
  exact ⟨rs, decode_inv hd, hw⟩

end

section
variable (h : Hash)

theorem mem_elementsList_wf : (as : List Env) → (x : Env) → WFList h as → x ∈ elementsList as → WF h x := by
  intro as x hw hx
  rw [elementsList_eq] at hx
  obtain ⟨a, ha, hx⟩ := List.mem_flatMap.1 hx
  exact ((WFList_iff h as).1 hw a ha).elements hx

end

theorem mem_elementsList_canon : (as : List Env) → (x : Env) → CanonList as →
    x ∈ elementsList as → Canon x := by
  intro as x hc hx
  rw [elementsList_eq] at hx
  obtain ⟨a, ha, hx⟩ := List.mem_flatMap.1 hx
  exact ((CanonList_iff as).1 hc a ha).elements hx

theorem wf_recompute {h : Hash} {e : Env} (hw : WF h e) : e.digest = recompute h e := by
  cases e with
  | node s as d => exact hw.node_digest
  | wrapped e d => exact hw.2
  | assertion p o d => exact hw.2.2
  | encrypted m d => rw [recompute, (WF_encrypted ..).1 hw]; rfl
  | leaf c d => exact hw
  | knownValue v d => exact hw
  | _ => rfl

section
variable (h : Hash) (A : Aead) (Z : Deflate)

/-- what every step preserves (`P`) holds along a history, so every recorded outcome is that of
a step taken from such an envelope (`R`) -/
theorem runHistory_forall {P : Env → Prop} {Q : Op → Prop} {R : Res Env → Prop}
    (step : ∀ {o e r}, P e → Q o → applyOp h A Z o e = .ok r → P r)
    (out : ∀ {o e}, P e → Q o → R (applyOp h A Z o e)) :
    ∀ (ops : List Op) (e0 : Env), P e0 → (∀ o ∈ ops, Q o) → ∀ x ∈ runHistory h A Z e0 ops, R x
  | [], _, _, _, _, hx => nomatch hx
  | o :: os, e0, he, ha, x, hx => by
    have ho := ha o List.mem_cons_self
    rw [runHistory] at hx
    split at hx
    · next r1 hr1 =>
      rcases List.mem_cons.1 hx with rfl | hmem
      · exact hr1 ▸ out he ho
      · exact runHistory_forall step out os r1 (step he ho hr1)
          (fun o' ho' => ha o' (List.mem_cons_of_mem _ ho')) x hmem
    · exact List.mem_singleton.1 hx ▸ out he ho

theorem runHistory_ok {P : Env → Prop} {Q : Op → Prop}
    (step : ∀ {o e r}, P e → Q o → applyOp h A Z o e = .ok r → P r)
    (ops : List Op) (e0 : Env) (h0 : P e0) (ha : ∀ o ∈ ops, Q o) (r : Env)
    (hr : Res.ok r ∈ runHistory h A Z e0 ops) : P r :=
  runHistory_forall h A Z (R := fun x => ∀ r, x = .ok r → P r) step (fun he ho _ => step he ho)
    ops e0 h0 ha _ hr r rfl

theorem runHistory_head {o : Op} {os : List Op} {e r : Env} (hr : applyOp h A Z o e = .ok r) :
    Res.ok r ∈ runHistory h A Z e (o :: os) := by
  simp only [runHistory, hr, List.mem_cons, true_or]

end

/-- a toy hash with 32-byte values that the kernel can evaluate -/
def toyHash : Hash := ⟨fun b => ⟨(b.foldl (fun acc x => acc * 31 + x.toNat + 1) 7) % 2 ^ 256⟩⟩
/-- identity "cipher" -/
def idAead : Aead := ⟨fun _ _ pt _ => (pt, []), fun _ _ ct _ _ => some ct⟩
/-- identity "compressor" -/
def idDeflate : Deflate := ⟨id, some, fun _ => 0⟩

theorem toyHash_valid : ∀ b, (toyHash.H b).Valid := fun _ => Nat.mod_lt _ (by decide)

def sSubj : Env := newLeaf toyHash (.text [0x62])
def sA1 : Env := newAssertion toyHash (newKnownValue toyHash 1) (newLeaf toyHash (.uint 10))
def sA2 : Env := newAssertion toyHash (newLeaf toyHash (.text [0x61])) (newLeaf toyHash (.uint 20))
def sA3 : Env := newAssertion toyHash (newKnownValue toyHash 3) (newWrapped toyHash sA1)
/-- a node with two assertions, listed in ascending digest order -/
def sNode : Env :=
  .node sSubj [sA2, sA1] (toyHash.ofDigests (sSubj.digest :: [sA2, sA1].map Env.digest))

theorem sSubj_inv : Inv toyHash sSubj := Inv.newLeaf _ _
theorem sA1_inv : Inv toyHash sA1 := (Inv.newKnownValue _ _).newAssertion (Inv.newLeaf _ _)
theorem sA2_inv : Inv toyHash sA2 := (Inv.newLeaf _ _).newAssertion (Inv.newLeaf _ _)
theorem sA3_inv : Inv toyHash sA3 := (Inv.newKnownValue _ _).newAssertion sA1_inv.newWrapped
theorem sA_slotOk : sA1.slotOk = true ∧ sA2.slotOk = true ∧ sA3.slotOk = true := ⟨rfl, rfl, rfl⟩

/-- a node whose cached digest was computed over its assertions in the order given
(descending) instead of ascending: `WF` but not `Canon` -/
def sUnsorted : Env :=
  .node sSubj [sA1, sA2] (toyHash.ofDigests [sSubj.digest, sA1.digest, sA2.digest])

/-- the digest comparisons the samples need, in one evaluation -/
theorem sDigests : sA2.digest.val < sA1.digest.val ∧ sA2.digest ≠ sA3.digest ∧
    sA1.digest ≠ sA3.digest ∧
    toyHash.ofDigests [sSubj.digest, sA1.digest, sA2.digest] ≠
      toyHash.ofDigests [sSubj.digest, sA2.digest, sA1.digest] := by decide +kernel

theorem sNode_asc : AscDigests [sA2, sA1] :=
  List.pairwise_cons.2 ⟨fun _ hb => List.mem_singleton.1 hb ▸ sDigests.1, List.pairwise_singleton ..⟩
theorem sA3_fresh : ∀ x ∈ [sA2, sA1], x.digest ≠ sA3.digest :=
  List.forall_mem_cons.2 ⟨sDigests.2.1, List.forall_mem_cons.2 ⟨sDigests.2.2.1, nofun⟩⟩
theorem sNode_eq_mkNode : sNode = mkNode toyHash sSubj [sA2, sA1] :=
  (mkNode_of_asc toyHash sNode_asc).symm
theorem sNode_inv : Inv toyHash sNode := by
  rw [sNode_eq_mkNode]
  exact sSubj_inv.mkNode (List.forall_mem_cons.2 ⟨sA2_inv, List.forall_mem_cons.2 ⟨sA1_inv, nofun⟩⟩)
    (List.cons_ne_nil _ _) sNode_asc.distinct
    (List.forall_mem_cons.2 ⟨sA_slotOk.2.1, List.forall_mem_cons.2 ⟨sA_slotOk.1, nofun⟩⟩)

end InvL
end EnvVerif
