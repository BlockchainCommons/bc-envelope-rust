/-
  Lemmas/CodecPlain.lean — the second codec law for the model codec at every input whose tree is
  `Cbor.Plain`, by induction on the fuel of the decoder.  In general the law is false (see at
  `CodecLaws`); `decFloat_not_plain` is what keeps the floats out.
-/
import EnvVerif.Lemmas.CodecLaws
namespace EnvVerif
namespace Cbor

/-- every accepting branch of `decFloat` returns a float, or an integer that the guard of the
branch puts outside the range of `Plain` -/
theorem decFloat_not_plain {ai v : Nat} {c : Cbor} (h : decFloat ai v = .ok c) : ¬ c.Plain := by
  revert h
  fun_cases decFloat ai v <;> intro h <;> cases h <;> first | exact id | (rw [Plain]; omega)

/-- what `decItem`, `decItems` and `decPairs` guarantee at a given fuel; for `decPairs` also that
the keys read lie above `prev`, which makes the keys of the whole map ascend.  (`Inv` in these names:
of the induction on the fuel, not the envelope invariant.) -/
def ItemInv (fuel : Nat) : Prop :=
  ∀ data c rest, decItem fuel data = .ok (c, rest) → c.Plain → data = c.enc ++ rest ∧ c.Valid

def ItemsInv (fuel : Nat) : Prop :=
  ∀ n data xs rest, decItems fuel n data = .ok (xs, rest) → PlainList xs →
    data = encList xs ++ rest ∧ ValidList xs ∧ xs.length = n

def PairsInv (fuel : Nat) : Prop :=
  ∀ n prev data kvs rest, decPairs fuel n prev data = .ok (kvs, rest) → PlainPairs kvs →
    data = encPairs kvs ++ rest ∧ ValidPairs kvs ∧ kvs.length = n ∧ KeysAsc (keysEnc kvs) ∧
      (∀ p, prev = some p → ∀ k ∈ keysEnc kvs, bytesLt p k = true)

def DecInvAt (fuel : Nat) : Prop := ItemInv fuel ∧ ItemsInv fuel ∧ PairsInv fuel

theorem decInv_item_succ (fuel : Nat) (ih : DecInvAt fuel) : ItemInv (fuel + 1) := by
  obtain ⟨ih1, ih2, ih3⟩ := ih
  intro data c rest h hpl
  cases hh : decHead data with
  | error e => rw [decItem, hh] at h; cases h
  | ok q =>
    obtain ⟨mt, ai, v, r0⟩ := q
    obtain ⟨hmt, hai, hv, hdata⟩ := decHead_inv hh
    obtain rfl | rfl | rfl | rfl | rfl | rfl | rfl | rfl :
        mt = 0 ∨ mt = 1 ∨ mt = 2 ∨ mt = 3 ∨ mt = 4 ∨ mt = 5 ∨ mt = 6 ∨ mt = 7 := by omega
    · rw [decItem_head0 _ hh] at h
      cases h
      exact ⟨hdata (.inl (by decide)), hv⟩
    · rw [decItem_head1 _ hh] at h
      cases h
      exact ⟨hdata (.inl (by decide)), hv⟩
    · rw [decItem_head2 _ hh] at h
      obtain ⟨hlen, h⟩ := Except.ok_of_ite_error h
      cases h
      have hl : (r0.take v).length = v := by rw [List.length_take]; omega
      rw [enc, Valid, hl, List.append_assoc, List.take_append_drop]
      exact ⟨hdata (.inl (by decide)), hv⟩
    · rw [decItem_head3 _ hh] at h
      obtain ⟨hlen, h⟩ := Except.ok_of_ite_error h
      split at h
      case isFalse => cases h
      next hutf =>
      cases h
      have hl : (r0.take v).length = v := by rw [List.length_take]; omega
      rw [enc, Valid, hl, List.append_assoc, List.take_append_drop]
      exact ⟨hdata (.inl (by decide)), hv, hutf⟩
    · rw [decItem_head4 _ hh] at h
      split at h
      · cases h
      next xs r hr =>
      cases h
      obtain ⟨e1, e2, e3⟩ := ih2 v r0 xs _ hr hpl
      rw [enc, Valid, e3, List.append_assoc, ← e1]
      exact ⟨hdata (.inl (by decide)), hv, e2⟩
    · rw [decItem_head5 _ hh] at h
      split at h
      · cases h
      next kvs r hr =>
      cases h
      obtain ⟨e1, e2, e3, e4, _⟩ := ih3 v none r0 kvs _ hr hpl
      rw [enc, Valid, e3, List.append_assoc, ← e1]
      exact ⟨hdata (.inl (by decide)), hv, e2, e4⟩
    · rw [decItem_head6 _ hh] at h
      split at h
      · cases h
      next x r hr =>
      cases h
      obtain ⟨e1, e2⟩ := ih1 r0 x _ hr hpl
      rw [enc, Valid, List.append_assoc, ← e1]
      exact ⟨hdata (.inl (by decide)), hv, e2⟩
    · rw [decItem_head7 _ hh] at h
      split at h
      · split at h
        · cases h
        next c' hd =>
        cases h
        exact absurd hpl (decFloat_not_plain hd)
      next hfl =>
      split at h
      case isFalse => cases h
      next hs =>
      cases h
      simp only [Bool.or_eq_true, beq_iff_eq, not_or] at hfl hs
      exact ⟨hdata (.inr (by omega)), by rw [Valid]; exact or_assoc.mp hs⟩

theorem decInv_items_succ (fuel : Nat) (ih : DecInvAt fuel) : ItemsInv (fuel + 1) := by
  obtain ⟨ih1, ih2, _⟩ := ih
  intro n data xs rest h hpl
  cases n with
  | zero => cases h; exact ⟨rfl, trivial, rfl⟩
  | succ n =>
    rw [decItems] at h
    split at h
    · cases h
    next x r hx =>
    split at h
    · cases h
    next xs' r' hr =>
    cases h
    obtain ⟨a1, a2⟩ := ih1 data x r hx hpl.1
    obtain ⟨b1, b2, b3⟩ := ih2 n r xs' _ hr hpl.2
    rw [encList, List.append_assoc, ← b1]
    exact ⟨a1, ⟨a2, b2⟩, congrArg _ b3⟩

theorem decInv_pairs_succ (fuel : Nat) (ih : DecInvAt fuel) : PairsInv (fuel + 1) := by
  obtain ⟨ih1, _, ih3⟩ := ih
  intro n prev data kvs rest h hpl
  cases n with
  | zero => cases h; exact ⟨rfl, trivial, rfl, List.Pairwise.nil, fun _ _ _ hk => nomatch hk⟩
  | succ n =>
    rw [decPairs] at h
    split at h
    · cases h
    next k r hk =>
    split at h
    · cases h
    next v r' hv =>
    obtain ⟨hord, h⟩ := Except.ok_of_ite_error h
    split at h
    · cases h
    next kvs' r'' hr =>
    cases h
    obtain ⟨a1, a2⟩ := ih1 data k r hk hpl.1
    obtain ⟨b1, b2⟩ := ih1 r v r' hv hpl.2.1
    obtain ⟨c1, c2, c3, c4, c5⟩ := ih3 n (some k.enc) r' kvs' _ hr hpl.2.2
    have hkk : ∀ k' ∈ keysEnc kvs', bytesLt k.enc k' = true := c5 k.enc rfl
    refine ⟨by rw [encPairs, List.append_assoc, List.append_assoc, ← c1, ← b1]; exact a1,
      ⟨a2, b2, c2⟩, congrArg _ c3, List.pairwise_cons.mpr ⟨hkk, c4⟩, ?_⟩
    rintro p rfl k' hk'
    have hpk : bytesLt p k.enc = true := by simpa using hord
    rcases List.mem_cons.mp hk' with rfl | hk'
    · exact hpk
    · exact bytesLt_trans _ _ _ hpk (hkk k' hk')

theorem decInv_all : ∀ fuel, DecInvAt fuel
  | 0 => by
    refine ⟨fun _ _ _ h => (nomatch h), fun n _ _ _ h _ => ?_, fun n _ _ _ _ h _ => ?_⟩ <;>
      cases n <;> cases h
    · exact ⟨rfl, trivial, rfl⟩
    · exact ⟨rfl, trivial, rfl, List.Pairwise.nil, fun _ _ _ hk => nomatch hk⟩
  | fuel + 1 =>
    ⟨decInv_item_succ fuel (decInv_all fuel), decInv_items_succ fuel (decInv_all fuel),
      decInv_pairs_succ fuel (decInv_all fuel)⟩

theorem encDec_of_plain {b : Bytes} {c : Cbor} (hd : dec b = .ok c) (hp : c.Plain) :
    c.enc = b ∧ c.Valid := by
  obtain ⟨e1, e2⟩ := (decInv_all _).1 b c [] (dec_eq_ok.mp hd) hp
  exact ⟨by simpa using e1.symm, e2⟩

end Cbor

theorem encDecAt_of_plain {b : Bytes} (hp : ∀ c, Cbor.dec b = .ok c → c.Plain) : EncDecAt b :=
  fun c hc => Cbor.encDec_of_plain hc (hp c hc)

end EnvVerif
