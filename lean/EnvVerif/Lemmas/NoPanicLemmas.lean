/-
  Lemmas/NoPanicLemmas.lean — no-panic facts that no lemma file of a layer has.
  Props/C16.lean uses `unwrapFold` (which `replace_subject` is by definition:
  `add_assertion_envelopes` when every element is a legal slot, a panic otherwise), `NP.aadLaw` /
  `NP.actOk` and `optDigest_isSome_of_aad`.
  Nothing uses the rest: `NP.NoPanic` (`ExprL.NoPanic` of Lemmas/Res.lean once more) with
  `noPanic_iff` and `matchq`, `newNodeUnchecked_nil`, `obscure_np` (Props/C16.lean proves it
  without the hypothesis), `addAssertionEnvelopeSalted_np`.
  The closure rules of "not a panic" are in Lemmas/Res.lean.
-/
import EnvVerif.Lemmas.ExprLemmas
import EnvVerif.Lemmas.ElideLemmas
namespace EnvVerif

namespace NP
open Env

def NoPanic {α : Type} (r : Res α) : Prop := ∀ s, r ≠ .panic s

theorem noPanic_iff {α : Type} (r : Res α) :
    NoPanic r ↔ (∃ x, r = .ok x) ∨ (∃ m, r = .err m) := by
  cases r <;> simp [NoPanic]

theorem matchq {α β : Type} {r : Res α} {f : α → Res β} (hr : NoPanic r)
    (hf : ∀ x, r = .ok x → NoPanic (f x)) :
    NoPanic (match r with | .ok x => f x | .err m => .err m | .panic s => .panic s) :=
  Res.bind_ne_panic hr hf

section
variable (h : Hash)

theorem newNodeUnchecked_nil (s : Env) :
    newNodeUnchecked h s [] = .panic "envelope.rs:new_with_unchecked_assertions:assert" := rfl

/-- the fold `acc = acc.add_assertion_envelope(a).unwrap()` of `replace_subject` and
`add_signature_opt` -/
def unwrapFold (site : String) (as : List Env) (init : Res Env) : Res Env :=
  as.foldl (fun acc a => acc.bind fun x =>
    match addAssertionEnvelope h x a with
    | .ok y => .ok y
    | .err _ => .panic site
    | .panic p => .panic p) init

theorem unwrapFold_eq (site : String) (as : List Env) (s : Env) :
    unwrapFold h site as (.ok s) = if as.all slotOk then addAll h s as else .panic site :=
  AW.unwrapFold_eq h site as s

theorem unwrapFold_panic_iff (site : String) (as : List Env) (s : Env) :
    (∃ p, unwrapFold h site as (.ok s) = .panic p) ↔ ∃ a ∈ as, a.slotOk = false := by
  rw [unwrapFold_eq]
  by_cases hall : as.all slotOk = true
  · obtain ⟨r, hr⟩ := AW.addAll_isOk h as s (List.all_eq_true.1 hall)
    rw [if_pos hall, hr]
    exact ⟨fun ⟨_, hp⟩ => (nomatch hp), fun ⟨a, ha, hs⟩ => by
      rw [List.all_eq_true.1 hall a ha] at hs; cases hs⟩
  · rw [if_neg hall]
    exact ⟨fun _ => by simpa using hall, fun _ => ⟨site, rfl⟩⟩

theorem replaceSubject_eq (e s : Env) :
    replaceSubject h e s = unwrapFold h "assertions.rs:replace_subject:unwrap" e.assertions (.ok s) := rfl

end

/-- the codec fact behind `new_with_encrypted(..).unwrap()`, for every 32-byte digest: it
holds in the model -/
theorem aadLaw : AadLaw := fun _ hd => aadOk_of_valid hd

theorem actOk {h : Hash} (hH : HashValid h) {e : Env} (hi : Inv h e) (act : Action) : ActOk act e :=
  ActOk.of_laws aadLaw hH hi act

section
variable (h : Hash) (A : Aead) (Z : Deflate)

/-- `new_with_encrypted(..).unwrap()` cannot fire on a 32-byte digest -/
theorem obscure_np (act : Action) (e : Env) (hd : e.digest.Valid) : NoPanic (obscure A Z act e) :=
  Res.ne_panic_of_isOk <| obscure_isOk A Z <| match act with
    | .encrypt _ _ => aadOk_of_valid hd
    | .elide => trivial
    | .compress => trivial

end

/-- a message whose aad is the tagged encoding of *any* digest value declares some digest:
the encoding always holds exactly 32 bytes -/
theorem optDigest_isSome_of_aad {m : EncMsg} {d : Digest} (ha : m.aad = (digestCbor d).enc) :
    ∃ d', m.optDigest = some d' := by
  simp only [EncMsg.optDigest, Cbor.dec?, ha, Cbor.decEncLaw _ (digestCbor_valid d)]
  simp [digestOfCbor?, digestCbor, Digest.ofBytes?]

section
variable (h : Hash)

theorem addAssertionEnvelopeSalted_np (e a : Env) (salt : Option Bytes) :
    NoPanic (addAssertionEnvelopeSalted h e a salt) := by
  unfold addAssertionEnvelopeSalted
  split
  · exact Res.err_ne_panic _
  · refine Res.bind_ne_panic ?_ fun x _ => ?_
    · cases salt with
      | some s => exact Res.ne_panic_of_isOk (AW.addAssertionUnwrap_isOk h a _ _)
      | none => exact Res.ok_ne_panic a
    · have hne : ∀ (s : Env) (as : List Env), NoPanic (newNodeUnchecked h s (as ++ [x])) := fun s as =>
        Res.ne_panic_of_isOk ⟨_, newNodeUnchecked_eq h (List.append_ne_nil_of_right_ne_nil as nofun)⟩
      split
      · split
        · exact Res.ok_ne_panic _
        · exact hne _ _
      · exact hne _ []

end

end NP
end EnvVerif
