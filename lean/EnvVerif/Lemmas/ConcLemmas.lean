/-
  Lemmas/ConcLemmas.lean — the lock protocol behind Props/C20.lean: the invariant `Good`, no
  deadlock, termination.

  Everything about `step` goes through one inversion, `step_iff` (a step is one of the five
  constructors of `StepRel`), everything about the replaced thread through `forall_set`,
  everything about `run` through `run_cons`.
-/
import EnvVerif.Model.Conc

namespace EnvVerif.Conc

theorem above_iff {r : Nat} {held : List Nat} : above r held = true ↔ ∀ x ∈ held, x < r := by
  simp [above]

theorem mem_drop {x r : Nat} {held : List Nat} : x ∈ drop r held ↔ x ∈ held ∧ x ≠ r := by
  simp [drop]

theorem drop_cons_self {r : Nat} {held : List Nat} (h : above r held = true) :
    drop r (r :: held) = held := by
  have : ∀ x ∈ held, (x != r) = true := fun x hx => by
    have := above_iff.1 h x hx
    simp; omega
  simp [drop, List.filter_eq_self.2 this]

theorem upd_apply (f : Nat → Option Nat) (r : Nat) (v : Option Nat) (x : Nat) :
    upd f r v x = if x = r then v else f x := rfl

theorem forall_set {α} {l : List α} {i : Nat} {t a : α} (ht : l[i]? = some t)
    {P : Nat → α → Prop} (ha : P i a) (hl : ∀ j u, j ≠ i → l[j]? = some u → P j u) :
    ∀ j u, (l.set i a)[j]? = some u → P j u := by
  intro j u hu
  by_cases hj : j = i
  · subst hj
    rw [List.getElem?_set_self (List.getElem?_eq_some_iff.1 ht).1] at hu
    cases hu; exact ha
  · rw [List.getElem?_set_ne (Ne.symm hj)] at hu; exact hl j u hj hu

theorem sym_nil (held : List Nat) : sym held [] = some held := by
  rw [sym]

theorem sym_cons (held : List Nat) (i : Instr) (rest : List Instr) :
    sym held (i :: rest) = (symI held i).bind (fun h => sym h rest) := by
  rw [sym]; cases symI held i <;> rfl

theorem sym_append_bind (p q : List Instr) :
    ∀ held, sym held (p ++ q) = (sym held p).bind (fun h => sym h q) := by
  induction p with
  | nil => intro held; simp [sym_nil]
  | cons i p ih =>
    intro held
    rw [List.cons_append, sym_cons, sym_cons]
    cases symI held i with
    | none => rfl
    | some h => simp [ih]

theorem sym_append_some {p q : List Instr} {held mid out : List Nat}
    (hp : sym held p = some mid) (hq : sym mid q = some out) : sym held (p ++ q) = some out := by
  rw [sym_append_bind, hp]; exact hq

theorem sym_acq {held : List Nat} {r : Nat} {rest : List Instr} {out : List Nat} :
    sym held (.acq r :: rest) = some out ↔
      above r held = true ∧ sym (r :: held) rest = some out := by
  rw [sym_cons, symI]
  by_cases h : above r held = true <;> simp [h]

theorem sym_rel {held : List Nat} {r : Nat} {rest : List Instr} {out : List Nat} :
    sym held (.rel r :: rest) = some out ↔
      r ∈ held ∧ sym (drop r held) rest = some out := by
  rw [sym_cons, symI]
  by_cases h : r ∈ held <;> simp [h]

theorem sym_done {held : List Nat} {r : Nat} {rest : List Instr} {out : List Nat} :
    sym held (.done r :: rest) = some out ↔
      r ∈ held ∧ sym (drop r held) rest = some out :=
  sym_rel  -- `symI` does the same on `rel r` and on `done r`

theorem sym_once {held : List Nat} {r : Nat} {body rest : List Instr} {out : List Nat} :
    sym held (.once r body :: rest) = some out ↔
      above r held = true ∧ sym (r :: held) body = some (r :: held) ∧
        sym held rest = some out := by
  rw [sym_cons, symI]
  by_cases h : above r held = true
  · simp only [h, if_true, true_and]
    cases hb : sym (r :: held) body with
    | none => simp
    | some h' => by_cases e : h' = r :: held <;> simp [e]
  · simp [h]

/-- the program a runner is left with after entering `once r body` -/
theorem sym_unfold_once {held : List Nat} {r : Nat} {body rest : List Instr} {out : List Nat}
    (h : sym held (.once r body :: rest) = some out) :
    sym (r :: held) (body ++ .done r :: rest) = some out := by
  obtain ⟨ha, hb, hr⟩ := sym_once.1 h
  refine sym_append_some hb (sym_done.2 ⟨List.mem_cons_self, ?_⟩)
  rw [drop_cons_self ha]; exact hr

theorem ranked_iff {p : List Instr} : Ranked p = true ↔ sym [] p = some [] := by
  simp [Ranked]

theorem sym_flatten {held : List Nat} {ops : List (List Instr)}
    (h : ∀ p ∈ ops, sym held p = some held) : sym held ops.flatten = some held := by
  induction ops with
  | nil => exact sym_nil held
  | cons p ops ih =>
    exact sym_append_some (h p List.mem_cons_self) (ih fun q hq => h q (List.mem_cons_of_mem _ hq))

theorem held_pending {r : Nat} {pc : List Instr} : ∀ {held : List Nat},
    sym held pc = some [] → r ∈ held → Instr.rel r ∈ pc ∨ Instr.done r ∈ pc := by
  induction pc with
  | nil => intro held h hr; rw [sym_nil] at h; cases h; cases hr
  | cons i rest ih =>
    intro held h hr
    have tail : ∀ {held'}, sym held' rest = some [] → r ∈ held' →
        Instr.rel r ∈ i :: rest ∨ Instr.done r ∈ i :: rest := fun h' hr' =>
      (ih h' hr').imp (List.mem_cons_of_mem _) (List.mem_cons_of_mem _)
    cases i with
    | acq r' => exact tail (sym_acq.1 h).2 (List.mem_cons_of_mem _ hr)
    | once r' body => exact tail (sym_once.1 h).2.2 hr
    | rel r' =>
      by_cases e : r = r'
      · exact e ▸ .inl List.mem_cons_self
      · exact tail (sym_rel.1 h).2 (mem_drop.2 ⟨hr, e⟩)
    | done r' =>
      by_cases e : r = r'
      · exact e ▸ .inr List.mem_cons_self
      · exact tail (sym_done.1 h).2 (mem_drop.2 ⟨hr, e⟩)

/-- what `step s tid` does when thread `tid` is `t`: the five ways to make a step -/
inductive StepRel (s : State) (tid : Nat) (t : Thread) : State → Prop
  | acq {r : Nat} {rest : List Instr} : t.pc = .acq r :: rest → s.owner r = none →
      StepRel s tid t ⟨s.threads.set tid ⟨rest, r :: t.held⟩, upd s.owner r (some tid), s.finished⟩
  | rel {r : Nat} {rest : List Instr} : t.pc = .rel r :: rest → s.owner r = some tid →
      StepRel s tid t ⟨s.threads.set tid ⟨rest, drop r t.held⟩, upd s.owner r none, s.finished⟩
  | done {r : Nat} {rest : List Instr} : t.pc = .done r :: rest → s.owner r = some tid →
      StepRel s tid t ⟨s.threads.set tid ⟨rest, drop r t.held⟩, upd s.owner r none, r :: s.finished⟩
  | skip {r : Nat} {body rest : List Instr} : t.pc = .once r body :: rest →
      s.finished.contains r = true →
      StepRel s tid t ⟨s.threads.set tid ⟨rest, t.held⟩, s.owner, s.finished⟩
  | enter {r : Nat} {body rest : List Instr} : t.pc = .once r body :: rest →
      s.finished.contains r = false → s.owner r = none →
      StepRel s tid t ⟨s.threads.set tid ⟨body ++ .done r :: rest, r :: t.held⟩,
        upd s.owner r (some tid), s.finished⟩

theorem step_iff {s s' : State} {tid : Nat} :
    step s tid = some s' ↔ ∃ t, s.threads[tid]? = some t ∧ StepRel s tid t s' := by
  unfold step
  cases ht : s.threads[tid]? with
  | none => simp
  | some t =>
    simp only [Option.some.injEq, exists_eq_left']
    constructor
    · intro h
      split at h
      · cases h
      · next hpc => split at h <;> cases h; exact .acq hpc ‹_›
      · next hpc => split at h <;> cases h; exact .rel hpc ‹_›
      · next hpc =>
        split at h
        · cases h; exact .skip hpc ‹_›
        · split at h <;> cases h; exact .enter hpc (Bool.eq_false_iff.2 ‹_›) ‹_›
      · next hpc => split at h <;> cases h; exact .done hpc ‹_›
    · intro h
      cases h with
      | acq hpc ho | rel hpc ho | done hpc ho => simp only [hpc, ho, if_true]
      | skip hpc hf => simp only [hpc, hf, if_true]
      | enter hpc hf ho => simp only [hpc, hf, ho, Bool.false_eq_true, if_false]

theorem run_nil {s s' : State} : run s [] = some s' ↔ s = s' := by
  rw [run, Option.some.injEq]

theorem run_cons {s s' : State} {tid : Nat} {sched : List Nat} :
    run s (tid :: sched) = some s' ↔ ∃ s1, step s tid = some s1 ∧ run s1 sched = some s' := by
  rw [run]; cases step s tid <;> simp

theorem run_preserves {P : State → Prop} (hP : ∀ {s s' tid}, P s → step s tid = some s' → P s') :
    ∀ {sched : List Nat} {s s' : State}, P s → run s sched = some s' → P s'
  | [], _, _, p, h => run_nil.1 h ▸ p
  | _ :: _, _, _, p, h =>
    let ⟨_, h1, h2⟩ := run_cons.1 h
    run_preserves hP (hP p h1) h2

theorem run_append {s : State} : ∀ {a b : List Nat} {s1 s2 : State}, run s a = some s1 →
    run s1 b = some s2 → run s (a ++ b) = some s2 := by
  intro a
  induction a generalizing s with
  | nil => intro b s1 s2 h1 h2; cases run_nil.1 h1; exact h2
  | cons tid a ih =>
    intro b s1 s2 h1 h2
    obtain ⟨s', hst, h1⟩ := run_cons.1 h1
    exact run_cons.2 ⟨s', hst, ih h1 h2⟩

/-- `Good s`:
  * what is left of every thread's program is symbolically executable from what the thread
    holds, and ends holding nothing (so every request it will ever make is above what it
    holds at that moment, and everything held - a running once included - will be given up:
    its `rel` or `done` is pending);
  * the ownership table and the threads' held-lists say the same thing. -/
structure Good (s : State) : Prop where
  sym_ok : ∀ (i : Nat) (t : Thread), s.threads[i]? = some t → sym t.held t.pc = some []
  owned_held : ∀ (r u : Nat), s.owner r = some u →
    ∃ t : Thread, s.threads[u]? = some t ∧ r ∈ t.held
  held_owned : ∀ (i : Nat) (t : Thread), s.threads[i]? = some t →
    ∀ r ∈ t.held, s.owner r = some i

theorem Good.owner_iff {s : State} (g : Good s) {i : Nat} {t : Thread}
    (ht : s.threads[i]? = some t) (r : Nat) : s.owner r = some i ↔ r ∈ t.held := by
  refine ⟨fun h => ?_, g.held_owned i t ht r⟩
  obtain ⟨t', ht', hr⟩ := g.owned_held r i h
  rw [ht] at ht'; cases ht'; exact hr

theorem good_init_of_ranked {progs : List (List Instr)} (h : ∀ p ∈ progs, Ranked p = true) :
    Good (init progs) := by
  refine ⟨fun i t ht => ?_, fun r u hu => (by cases hu), fun i t ht r hr => ?_⟩
  · obtain ⟨p, hp, rfl⟩ := List.mem_map.1 (List.mem_of_getElem? ht)
    exact ranked_iff.1 (h p hp)
  · obtain ⟨p, _, rfl⟩ := List.mem_map.1 (List.mem_of_getElem? ht)
    cases hr

theorem Good.move {s : State} (g : Good s) {i : Nat} {t : Thread} (ht : s.threads[i]? = some t)
    {pc' : List Instr} {held' : List Nat} {own' : Nat → Option Nat} (fin' : List Nat)
    (hsym : sym held' pc' = some [])
    (hown : ∀ r u, own' r = some u ↔ if u = i then r ∈ held' else s.owner r = some u) :
    Good ⟨s.threads.set i ⟨pc', held'⟩, own', fin'⟩ := by
  have hi := (List.getElem?_eq_some_iff.1 ht).1
  refine ⟨forall_set ht hsym fun j u _ hu => g.sym_ok j u hu, fun r u hu => ?_,
    forall_set ht (fun r hr => (hown r i).2 (by simpa using hr)) fun j u hj hu r hr =>
      (hown r j).2 (by simpa [hj] using g.held_owned j u hu r hr)⟩
  have := (hown r u).1 hu
  by_cases hui : u = i
  · subst hui; exact ⟨_, List.getElem?_set_self hi, by simpa using this⟩
  · obtain ⟨t', ht', hr⟩ := g.owned_held r u (by simpa [hui] using this)
    exact ⟨t', by rw [List.getElem?_set_ne (Ne.symm hui)]; exact ht', hr⟩

theorem Good.take {s : State} (g : Good s) {i : Nat} {t : Thread} (ht : s.threads[i]? = some t)
    {r : Nat} (hfree : s.owner r = none) {pc' : List Instr} (fin' : List Nat)
    (hsym : sym (r :: t.held) pc' = some []) :
    Good ⟨s.threads.set i ⟨pc', r :: t.held⟩, upd s.owner r (some i), fin'⟩ := by
  refine g.move ht fin' hsym fun x u => ?_
  rw [upd_apply, List.mem_cons, ← g.owner_iff ht x]
  by_cases hx : x = r
  · subst hx; by_cases hu : u = i <;> simp [hu, hfree, Ne.symm]
  · by_cases hu : u = i <;> simp [hx, hu]

theorem Good.give {s : State} (g : Good s) {i : Nat} {t : Thread} (ht : s.threads[i]? = some t)
    {r : Nat} (hown : s.owner r = some i) {pc' : List Instr} (fin' : List Nat)
    (hsym : sym (drop r t.held) pc' = some []) :
    Good ⟨s.threads.set i ⟨pc', drop r t.held⟩, upd s.owner r none, fin'⟩ := by
  refine g.move ht fin' hsym fun x u => ?_
  rw [upd_apply, mem_drop, ← g.owner_iff ht x]
  by_cases hx : x = r
  · subst hx; by_cases hu : u = i <;> simp [hu, hown, Ne.symm]
  · by_cases hu : u = i <;> simp [hx, hu]

theorem good_step_of {s s' : State} {tid : Nat} (g : Good s) (h : step s tid = some s') :
    Good s' := by
  obtain ⟨t, ht, hs⟩ := step_iff.1 h
  have hsym := g.sym_ok tid t ht
  cases hs with
  | acq hpc ho => rw [hpc] at hsym; exact g.take ht ho _ (sym_acq.1 hsym).2
  | rel hpc ho => rw [hpc] at hsym; exact g.give ht ho _ (sym_rel.1 hsym).2
  | done hpc ho => rw [hpc] at hsym; exact g.give ht ho _ (sym_done.1 hsym).2
  | enter hpc _ ho => rw [hpc] at hsym; exact g.take ht ho _ (sym_unfold_once hsym)
  | skip hpc _ =>
    rw [hpc] at hsym
    refine g.move ht _ (sym_once.1 hsym).2.2 fun x u => ?_
    by_cases hu : u = tid <;> simp [hu, g.owner_iff ht]

theorem head_enabled {s : State} {i : Nat} {t : Thread} (g : Good s)
    (ht : s.threads[i]? = some t) (hpc : t.pc ≠ [])
    (hfree : ∀ r, (∀ x ∈ t.held, x < r) → s.owner r = none) :
    ∃ s', step s i = some s' := by
  have hs := g.sym_ok i t ht
  suffices ∃ s', StepRel s i t s' from this.imp fun s' h => step_iff.2 ⟨t, ht, h⟩
  cases hp : t.pc with
  | nil => exact absurd hp hpc
  | cons ins rest =>
    rw [hp] at hs
    cases ins with
    | acq r => exact ⟨_, .acq hp (hfree r (above_iff.1 (sym_acq.1 hs).1))⟩
    | rel r => exact ⟨_, .rel hp (g.held_owned i t ht r (sym_rel.1 hs).1)⟩
    | done r => exact ⟨_, .done hp (g.held_owned i t ht r (sym_done.1 hs).1)⟩
    | once r body =>
      cases hf : s.finished.contains r with
      | true => exact ⟨_, .skip hp hf⟩
      | false => exact ⟨_, .enter hp hf (hfree r (above_iff.1 (sym_once.1 hs).1))⟩

/-- The key argument.  If nothing is held anywhere, every request is free.  Otherwise take
the resource `m` of maximal rank among the held ones and its holder `u`: `u` has not finished
(it must still give up `m`), whatever it requests next is above `m`, and a busy resource is
held by somebody, hence at most `m`: the request is free. -/
theorem progress {s : State} (g : Good s) (h : ∃ t ∈ s.threads, t.pc ≠ []) :
    ∃ (tid : Nat) (s' : State), step s tid = some s' := by
  have hheld : ∀ r w, s.owner r = some w → r ∈ s.threads.flatMap (·.held) := fun r w ho =>
    let ⟨t0, ht0, hm⟩ := g.owned_held r w ho
    List.mem_flatMap.2 ⟨t0, List.mem_of_getElem? ht0, hm⟩
  cases hmax : (s.threads.flatMap (·.held)).max? with
  | none =>
    obtain ⟨t, htm, hpc⟩ := h
    obtain ⟨i, hi⟩ := List.mem_iff_getElem?.1 htm
    refine ⟨i, head_enabled g hi hpc fun r _ => ?_⟩
    cases ho : s.owner r with
    | none => rfl
    | some w => rw [List.max?_eq_none_iff.1 hmax] at hheld; cases hheld r w ho
  | some m =>
    obtain ⟨hm, hmax⟩ := List.max?_eq_some_iff.1 hmax
    obtain ⟨u, hum, hmu⟩ := List.mem_flatMap.1 hm
    obtain ⟨j, hj⟩ := List.mem_iff_getElem?.1 hum
    have hpc : u.pc ≠ [] := fun e => by
      have := g.sym_ok j u hj
      rw [e, sym_nil] at this
      rw [Option.some.inj this] at hmu; cases hmu
    refine ⟨j, head_enabled g hj hpc fun r hr => ?_⟩
    cases ho : s.owner r with
    | none => rfl
    | some w => exact absurd (hmax r (hheld r w ho)) (Nat.not_le.2 (hr m hmu))

theorem stuck_final {s : State} (g : Good s) (h : ∀ tid, step s tid = none) :
    (∀ t ∈ s.threads, t.pc = [] ∧ t.held = []) ∧ ∀ r, s.owner r = none := by
  have hfin : ∀ t ∈ s.threads, t.pc = [] ∧ t.held = [] := fun t ht => by
    have hpc : t.pc = [] := by
      cases hpc : t.pc with
      | nil => rfl
      | cons i rest =>
        obtain ⟨tid, s', hs⟩ := progress g ⟨t, ht, hpc ▸ List.cons_ne_nil i rest⟩
        rw [h tid] at hs; cases hs
    obtain ⟨i, hi⟩ := List.mem_iff_getElem?.1 ht
    have := g.sym_ok i t hi
    rw [hpc, sym_nil] at this
    exact ⟨hpc, Option.some.inj this⟩
  refine ⟨hfin, fun r => ?_⟩
  cases ho : s.owner r with
  | none => rfl
  | some u =>
    obtain ⟨t0, ht0, hm⟩ := g.owned_held r u ho
    rw [(hfin t0 (List.mem_of_getElem? ht0)).2] at hm; cases hm

theorem size_nil : size [] = 0 := by rw [size]

theorem size_cons (i : Instr) (p : List Instr) : size (i :: p) = sizeI i + size p := by
  rw [size]

theorem size_append (p q : List Instr) : size (p ++ q) = size p + size q := by
  induction p with
  | nil => simp [size_nil]
  | cons i p ih => rw [List.cons_append, size_cons, size_cons, ih]; omega

theorem sizeI_pos (i : Instr) : 0 < sizeI i := by
  cases i <;> rw [sizeI] <;> exact Nat.succ_pos _

theorem sum_map_set {α} (f : α → Nat) {t a : α} {l : List α} {i : Nat} (h : l[i]? = some t) :
    ((l.set i a).map f).sum + f t = (l.map f).sum + f a := by
  obtain ⟨hi, rfl⟩ := List.getElem?_eq_some_iff.1 h
  have hl := List.take_append_drop i l
  rw [← List.getElem_cons_drop hi] at hl
  rw [List.set_eq_take_append_cons_drop, if_pos hi]
  conv => rhs; rw [← hl]
  simp only [List.map_append, List.map_cons, List.sum_append, List.sum_cons]
  omega

theorem size_move {s : State} {i : Nat} {t : Thread} (ht : s.threads[i]? = some t)
    {pc' : List Instr} (held' : List Nat) (o : Nat → Option Nat) (f : List Nat)
    (h : size pc' < size t.pc) :
    State.size ⟨s.threads.set i ⟨pc', held'⟩, o, f⟩ < s.size := by
  have := sum_map_set (fun t : Thread => size t.pc) (a := ⟨pc', held'⟩) ht
  simp only [State.size] at this ⊢
  omega

theorem step_size {s s' : State} {tid : Nat} (h : step s tid = some s') : s'.size < s.size := by
  obtain ⟨t, ht, hs⟩ := step_iff.1 h
  cases hs with
  | acq hpc _ | rel hpc _ | done hpc _ | skip hpc _ =>
    refine size_move ht _ _ _ ?_
    rw [hpc, size_cons]; exact Nat.lt_add_of_pos_left (sizeI_pos _)
  | enter hpc _ _ =>
    refine size_move ht _ _ _ ?_
    rw [hpc, size_append, size_cons, size_cons, sizeI, sizeI]; omega

theorem run_size {sched : List Nat} : ∀ {s s' : State}, run s sched = some s' →
    s'.size + sched.length ≤ s.size := by
  induction sched with
  | nil => intro s s' h; cases run_nil.1 h; exact Nat.le_refl _
  | cons tid sched ih =>
    intro s s' h
    obtain ⟨s1, h1, h2⟩ := run_cons.1 h
    have := ih h2
    have := step_size h1
    rw [List.length_cons]; omega

theorem can_finish {s : State} (g : Good s) :
    ∃ (sched : List Nat) (s' : State), run s sched = some s' ∧
      (∀ t ∈ s'.threads, t.pc = [] ∧ t.held = []) ∧ ∀ r, s'.owner r = none := by
  induction hn : s.size using Nat.strongRecOn generalizing s with
  | ind n ih =>
    by_cases hstuck : ∀ tid, step s tid = none
    · exact ⟨[], s, run_nil.2 rfl, stuck_final g hstuck⟩
    · obtain ⟨tid, ht⟩ := Classical.not_forall.1 hstuck
      obtain ⟨s1, hst⟩ := Option.ne_none_iff_exists'.1 ht
      obtain ⟨sched, s', hr, hfin⟩ := ih _ (hn ▸ step_size hst) (good_step_of g hst) rfl
      exact ⟨tid :: sched, s', run_cons.2 ⟨s1, hst, hr⟩, hfin⟩

theorem withFMT_ranked (k : Nat) : Ranked (withFMT k) = true := by
  have h1 : sym [] getFMT = some [FMT] := by decide +kernel
  have h2 : sym [FMT] tagsBrief = some [FMT] := by decide +kernel
  have h3 : sym [FMT] [Instr.rel FMT] = some [] := by decide +kernel
  have h4 : sym [FMT] (List.replicate k tagsBrief).flatten = some [FMT] :=
    sym_flatten fun p hp => List.eq_of_mem_replicate hp ▸ h2
  exact ranked_iff.2 (sym_append_some (sym_append_some h1 h4) h3)

/-- the lock programs C20 speaks about: the rows of `apiOps`, and a formatting call with any
number of brief uses of the tag store -/
def IsApiOp (p : List Instr) : Prop := (∃ name, (name, p) ∈ apiOps) ∨ ∃ k, p = withFMT k

end EnvVerif.Conc
