/-
  Lemmas/WalkLemmas.lean — the two walks, each through one equation over the children of an
  element (C15); the tokens of the structural image and their unique decodability (C14); the
  predicate lookups: what they return by the number of matches, and after an add.
-/
import EnvVerif.Lemmas.AssembleLemmas
namespace EnvVerif

/-- the children with the role each plays -/
def Env.kids : Env → List (Edge × Env)
  | .node s as _ => (.subject, s) :: as.map fun a => (.assertion, a)
  | .wrapped e _ => [(.wrapped, e)]
  | .assertion p o _ => [(.predicate, p), (.object, o)]
  | _ => []

theorem Env.kids_snd (e : Env) : e.kids.map (·.2) = e.children := by
  cases e <;> simp [Env.kids, Env.children, Function.comp_def]

namespace AW
open Env

theorem walkStructureList_eq (as : List Env) (lvl : Nat) :
    walkStructureList as lvl = as.flatMap (fun a => walkStructure a lvl .assertion) := by
  induction as with
  | nil => rfl
  | cons a as ih => simp only [walkStructureList, ih, List.flatMap_cons]

theorem walkTreeList_eq (as : List Env) (lvl : Nat) :
    walkTreeList as lvl = as.flatMap (fun a => walkTree a lvl) := by
  induction as with
  | nil => rfl
  | cons a as ih => simp only [walkTreeList, ih, List.flatMap_cons]

theorem walkStructure_eq (e : Env) (lvl : Nat) (edge : Edge) :
    walkStructure e lvl edge =
      (e, lvl, edge) :: e.kids.flatMap fun kc => walkStructure kc.2 (lvl + 1) kc.1 := by
  cases e <;> first | rfl | simp only [walkStructure, Env.kids, walkStructureList_eq, List.flatMap_map,
    List.flatMap_cons, List.flatMap_nil, List.append_nil]

/-- a node is transparent in tree mode: it is not visited and its subject keeps the level -/
theorem walkTree_eq (e : Env) (lvl : Nat) :
    walkTree e lvl = (if e.isNode then [] else [(e, lvl, .none)]) ++
      e.kids.flatMap fun kc => walkTree kc.2 (if kc.1 = .subject then lvl else lvl + 1) := by
  cases e <;> first | rfl | simp only [walkTree, Env.kids, walkTreeList_eq, List.flatMap_map, Env.isNode,
    List.flatMap_cons, List.flatMap_nil, List.append_nil, List.nil_append, List.cons_append, if_true,
    reduceCtorEq, if_false, Bool.false_eq_true]

theorem snd_mem_children {e : Env} {kc : Edge × Env} (h : kc ∈ e.kids) : kc.2 ∈ e.children := by
  rw [← Env.kids_snd]; exact List.mem_map_of_mem h

theorem walkStructure_map_fst (e : Env) : ∀ (lvl : Nat) (edge : Edge),
    (walkStructure e lvl edge).map (·.1) = elements e := by
  induction e using Env.induct_kids with
  | H e ih =>
    intro lvl edge
    rw [walkStructure_eq, elements_eq, List.map_cons, List.map_flatMap, ← Env.kids_snd,
      List.flatMap_map]
    exact congrArg _ (List.flatMap_congr_mem fun kc hkc => ih _ (snd_mem_children hkc) _ _)

theorem walkStructureList_map_fst : (as : List Env) → (lvl : Nat) →
    (walkStructureList as lvl).map (·.1) = elementsList as := by
  intro as lvl
  rw [walkStructureList_eq, elementsList_eq, List.map_flatMap]
  exact List.flatMap_congr_mem fun a _ => walkStructure_map_fst a _ _

theorem elements_length (e : Env) : (elements e).length = elementsCount e := by
  induction e using Env.induct_kids with
  | H e ih =>
    rw [elements_eq, elementsCount_eq, List.length_cons, List.length_flatMap, List.map_congr_left ih,
      Nat.add_comm]

theorem elementsList_length : (as : List Env) → (elementsList as).length = elementsCountList as := by
  intro as
  rw [elementsList_eq, elementsCountList_eq, List.length_flatMap,
    List.map_congr_left fun a _ => elements_length a]

inductive Child : Env → Edge → Env → Prop where
  | subject (s as d) : Child (.node s as d) .subject s
  | assertion (s as d a) : a ∈ as → Child (.node s as d) .assertion a
  | wrapped (e d) : Child (.wrapped e d) .wrapped e
  | predicate (p o d) : Child (.assertion p o d) .predicate p
  | object (p o d) : Child (.assertion p o d) .object o

theorem child_iff_kids {x c : Env} {k : Edge} : Child x k c ↔ (k, c) ∈ x.kids := by
  constructor
  · rintro ⟨⟩ <;> simp [Env.kids, *]
  · cases x <;> simp only [Env.kids, List.mem_cons, List.mem_map, List.not_mem_nil, or_false, Prod.mk.injEq]
    · rintro (⟨rfl, rfl⟩ | ⟨a, ha, rfl, rfl⟩)
      · exact .subject ..
      · exact .assertion _ _ _ _ ha
    all_goals first | exact False.elim | skip
    · rintro ⟨rfl, rfl⟩; exact .wrapped ..
    · rintro (⟨rfl, rfl⟩ | ⟨rfl, rfl⟩)
      · exact .predicate ..
      · exact .object ..

theorem Child.edge_ne_none {x c : Env} {k : Edge} (h : Child x k c) : k ≠ .none := by
  cases h <;> exact nofun

theorem mem_walk_tail {e : Env} {lvl : Nat} {edge : Edge} {v : Visit} :
    v ∈ (walkStructure e lvl edge).tail ↔
      ∃ kc ∈ e.kids, v = (kc.2, lvl + 1, kc.1) ∨ v ∈ (walkStructure kc.2 (lvl + 1) kc.1).tail := by
  rw [walkStructure_eq, List.tail_cons, List.mem_flatMap]
  refine exists_congr fun kc => and_congr_right fun _ => ?_
  rw [walkStructure_eq, List.tail_cons, List.mem_cons]

theorem walkStructure_parent (e : Env) : ∀ (lvl : Nat) (edge : Edge),
    ∀ v ∈ (walkStructure e lvl edge).tail, ∃ pv ∈ walkStructure e lvl edge,
      Child pv.1 v.2.2 v.1 ∧ v.2.1 = pv.2.1 + 1 := by
  induction e using Env.induct_kids with
  | H e ih =>
    intro lvl edge v hv
    obtain ⟨kc, hkc, rfl | hv⟩ := mem_walk_tail.1 hv
    · exact ⟨(e, lvl, edge), by rw [walkStructure_eq]; exact List.mem_cons_self,
        child_iff_kids.2 hkc, rfl⟩
    · obtain ⟨pv, hpv, hc⟩ := ih _ (snd_mem_children hkc) _ _ v hv
      refine ⟨pv, ?_, hc⟩
      rw [walkStructure_eq]
      exact List.mem_cons_of_mem _ (List.mem_flatMap.2 ⟨kc, hkc, hpv⟩)

theorem walkStructureList_parent : (as : List Env) → (lvl : Nat) →
    ∀ v ∈ walkStructureList as lvl,
      (∃ a ∈ as, v = (a, lvl, Edge.assertion)) ∨
      (∃ pv ∈ walkStructureList as lvl, Child pv.1 v.2.2 v.1 ∧ v.2.1 = pv.2.1 + 1) := by
  intro as lvl v hv
  rw [walkStructureList_eq] at hv ⊢
  obtain ⟨a, ha, hv⟩ := List.mem_flatMap.1 hv
  rw [walkStructure_eq] at hv
  rcases List.mem_cons.1 hv with rfl | hv
  · exact Or.inl ⟨a, ha, rfl⟩
  · obtain ⟨pv, hpv, hc⟩ := walkStructure_parent a lvl .assertion v (by rw [walkStructure_eq]; exact hv)
    exact Or.inr ⟨pv, List.mem_flatMap.2 ⟨a, ha, hpv⟩, hc⟩

theorem walkStructure_tail_level (e : Env) : ∀ (lvl : Nat) (edge : Edge),
    ∀ v ∈ (walkStructure e lvl edge).tail, lvl < v.2.1 ∧ v.2.2 ≠ Edge.none := by
  induction e using Env.induct_kids with
  | H e ih =>
    intro lvl edge v hv
    obtain ⟨kc, hkc, rfl | hv⟩ := mem_walk_tail.1 hv
    · exact ⟨Nat.lt_succ_self _, (child_iff_kids.2 hkc).edge_ne_none⟩
    · have := ih _ (snd_mem_children hkc) _ _ v hv
      exact ⟨Nat.lt_trans (Nat.lt_succ_self _) this.1, this.2⟩

theorem walkStructureList_level : (as : List Env) → (lvl : Nat) →
    ∀ v ∈ walkStructureList as lvl, lvl ≤ v.2.1 ∧ v.2.2 ≠ Edge.none := by
  intro as lvl v hv
  rw [walkStructureList_eq] at hv
  obtain ⟨a, _, hv⟩ := List.mem_flatMap.1 hv
  rw [walkStructure_eq] at hv
  rcases List.mem_cons.1 hv with rfl | hv
  · exact ⟨Nat.le_refl _, nofun⟩
  · have := walkStructure_tail_level a lvl .assertion v (by rw [walkStructure_eq]; exact hv)
    exact ⟨Nat.le_of_lt this.1, this.2⟩

/-- every suffix of `l` that starts at a visit begins with the complete walk of that visit's
element (at the recorded level and edge) -/
def Contig (l : List Visit) : Prop :=
  ∀ pre v post, l = pre ++ v :: post → ∃ suf, v :: post = walkStructure v.1 v.2.1 v.2.2 ++ suf

theorem Contig.nil : Contig [] := by
  intro pre v post h
  simp at h

theorem Contig.append {A B : List Visit} (hA : Contig A) (hB : Contig B) : Contig (A ++ B) := by
  intro pre v post h
  rcases List.append_eq_append_iff.1 h with ⟨a', hpre, hb⟩ | ⟨c', ha, hd⟩
  · exact hB a' v post hb
  · cases c' with
    | nil =>
      simp only [List.nil_append] at hd
      exact hB [] v post (by simp [hd])
    | cons v' c'' =>
      simp only [List.cons_append, List.cons.injEq] at hd
      obtain ⟨hv, hpost⟩ := hd
      subst hv
      obtain ⟨suf, hs⟩ := hA pre v c'' ha
      refine ⟨suf ++ B, ?_⟩
      rw [hpost, ← List.append_assoc, ← hs]
      rfl

theorem Contig.cons {e : Env} {lvl : Nat} {edge : Edge} {R : List Visit}
    (hw : walkStructure e lvl edge = (e, lvl, edge) :: R) (hR : Contig R) :
    Contig (walkStructure e lvl edge) := by
  intro pre v post h
  rw [hw] at h
  cases pre with
  | nil =>
    simp only [List.nil_append, List.cons.injEq] at h
    obtain ⟨hv, hpost⟩ := h
    subst hv; subst hpost
    exact ⟨[], by simp [hw]⟩
  | cons x pre' =>
    simp only [List.cons_append, List.cons.injEq] at h
    exact hR pre' v post h.2

theorem Contig.flatMap {α} {l : List α} {f : α → List Visit} (h : ∀ a ∈ l, Contig (f a)) :
    Contig (l.flatMap f) := by
  induction l with
  | nil => exact Contig.nil
  | cons a l ih =>
    exact (h a List.mem_cons_self).append (ih fun b hb => h b (List.mem_cons_of_mem _ hb))

theorem walkStructure_contig (e : Env) : ∀ (lvl : Nat) (edge : Edge),
    Contig (walkStructure e lvl edge) := by
  induction e using Env.induct_kids with
  | H e ih =>
    intro lvl edge
    exact Contig.cons (walkStructure_eq e lvl edge)
      (Contig.flatMap fun kc hkc => ih _ (snd_mem_children hkc) _ _)

theorem walkStructureList_contig : (as : List Env) → (lvl : Nat) →
    Contig (walkStructureList as lvl) := by
  intro as lvl
  rw [walkStructureList_eq]
  exact Contig.flatMap fun a _ => walkStructure_contig a lvl .assertion

theorem walkTree_map_fst (e : Env) : ∀ (lvl : Nat),
    (walkTree e lvl).map (·.1) = (elements e).filter (fun x => !x.isNode) := by
  induction e using Env.induct_kids with
  | H e ih =>
    intro lvl
    rw [walkTree_eq, elements_eq, List.map_append, List.map_flatMap, List.filter_cons,
      List.filter_flatMap, ← Env.kids_snd, List.flatMap_map,
      List.flatMap_congr_mem fun kc hkc => ih _ (snd_mem_children hkc) _]
    cases e.isNode <;> rfl

theorem walkTreeList_map_fst : (as : List Env) → (lvl : Nat) →
    (walkTreeList as lvl).map (·.1) = (elementsList as).filter (fun x => !x.isNode) := by
  intro as lvl
  rw [walkTreeList_eq, elementsList_eq, List.map_flatMap, List.filter_flatMap]
  exact List.flatMap_congr_mem fun a _ => walkTree_map_fst a _

theorem walkTree_edges (e : Env) : ∀ (lvl : Nat),
    ∀ v ∈ walkTree e lvl, v.2.2 = Edge.none ∧ lvl ≤ v.2.1 := by
  induction e using Env.induct_kids with
  | H e ih =>
    intro lvl v hv
    rw [walkTree_eq, List.mem_append, List.mem_flatMap] at hv
    rcases hv with hv | ⟨kc, hkc, hv⟩
    · split at hv
      · cases hv
      · cases List.mem_singleton.1 hv; exact ⟨rfl, Nat.le_refl _⟩
    · have := ih _ (snd_mem_children hkc) _ v hv
      refine ⟨this.1, Nat.le_trans ?_ this.2⟩
      split
      · exact Nat.le_refl _
      · exact Nat.le_succ _

theorem walkTreeList_edges : (as : List Env) → (lvl : Nat) →
    ∀ v ∈ walkTreeList as lvl, v.2.2 = Edge.none ∧ lvl ≤ v.2.1 := by
  intro as lvl v hv
  rw [walkTreeList_eq] at hv
  obtain ⟨a, _, hv⟩ := List.mem_flatMap.1 hv
  exact walkTree_edges a lvl v hv

/-- the discriminator byte `structural_digest` prepends for an obscured element -/
def disc : Env → Option UInt8
  | .elided _ => some 1
  | .encrypted .. => some 0
  | .compressed .. => some 2
  | _ => none

def tok (x : Env) : Option UInt8 × Digest := (disc x, x.digest)

def tokens (e : Env) : List (Option UInt8 × Digest) :=
  (walkStructure e 0 .none).map fun v => tok v.1

/-- the bytes a token contributes to the image: no framing -/
def tokenBytes (t : Option UInt8 × Digest) : Bytes := t.1.toList ++ t.2.bytes

theorem tokens_eq_elements (e : Env) : tokens e = (elements e).map tok := by
  rw [← walkStructure_map_fst e 0 .none, tokens, List.map_map]
  rfl

theorem structuralImage_eq_tokens (e : Env) :
    structuralImage e = (tokens e).flatMap tokenBytes := by
  unfold structuralImage tokens
  generalize walkStructure e 0 .none = l
  induction l with
  | nil => rfl
  | cons v l ih =>
    simp only [List.flatMap_cons, List.map_cons, ih]
    congr 1
    obtain ⟨x, lvl, ed⟩ := v
    cases x <;> rfl

theorem disc_cases {x : Env} {c : UInt8} (hc : disc x = some c) : c = 0 ∨ c = 1 ∨ c = 2 := by
  cases x <;> cases hc <;> simp

theorem disc_eq_none_iff (x : Env) : disc x = none ↔ x.isObscured = false := by
  cases x <;> simp [disc, isObscured, isElided, isEncrypted, isCompressed]

/-- what unique decodability needs of a token: a discriminator is 0, 1 or 2, and a digest that
stands without one does not begin with such a byte -/
def TokOk (t : Option UInt8 × Digest) : Prop :=
  (∀ c, t.1 = some c → c = 0 ∨ c = 1 ∨ c = 2) ∧
  (t.1 = none → ∀ c, t.2.bytes.head? = some c → c ≠ 0 ∧ c ≠ 1 ∧ c ≠ 2)

def tokB (t : Option UInt8 × Digest) : Option UInt8 × Bytes := (t.1, t.2.bytes)

theorem flat_length_ge (l : List (Option UInt8 × Digest)) :
    32 * l.length ≤ (l.flatMap tokenBytes).length := by
  induction l with
  | nil => simp
  | cons t l ih =>
    simp only [List.flatMap_cons, tokenBytes, List.length_append, List.length_cons,
      Digest.bytes_length]
    omega

/-- a plain token cannot be read as a token with discriminator -/
theorem plain_ne_disc {d d' : Digest} {c : UInt8} {r r' : Bytes} (h1 : TokOk (none, d))
    (h2 : TokOk (some c, d')) : d.bytes ++ r ≠ c :: r' := by
  intro h
  obtain ⟨b, bs, hb⟩ := List.exists_cons_of_length_pos (l := d.bytes) (by rw [Digest.bytes_length]; decide)
  rw [hb] at h
  cases (List.cons.inj h).1
  have := h1.2 rfl _ (by rw [hb]; rfl)
  rcases h2.1 _ rfl with hc | hc | hc
  · exact this.1 hc
  · exact this.2.1 hc
  · exact this.2.2 hc

-- `tokB` keeps `d.bytes` folded: a unification that unfolds it runs through all 32 bytes
theorem tokenBytes_append_inj {t1 t2 : Option UInt8 × Digest} {r1 r2 : Bytes} (h1 : TokOk t1)
    (h2 : TokOk t2) (h : tokenBytes t1 ++ r1 = tokenBytes t2 ++ r2) : tokB t1 = tokB t2 ∧ r1 = r2 := by
  obtain ⟨o1, d1⟩ := t1
  obtain ⟨o2, d2⟩ := t2
  have hl : d1.bytes.length = d2.bytes.length := by rw [Digest.bytes_length, Digest.bytes_length]
  cases o1 <;> cases o2 <;>
    simp only [tokenBytes, Option.toList_none, Option.toList_some, List.nil_append, List.cons_append] at h
  · obtain ⟨ha, hb⟩ := List.append_inj h hl
    exact ⟨by rw [tokB, tokB, ha], hb⟩
  · exact absurd h (plain_ne_disc h1 h2)
  · exact absurd h.symm (plain_ne_disc h2 h1)
  · obtain ⟨hc, h⟩ := List.cons.inj h
    obtain ⟨ha, hb⟩ := List.append_inj h hl
    exact ⟨by rw [tokB, tokB, hc, ha], hb⟩

theorem flat_inj : ∀ (l1 l2 : List (Option UInt8 × Digest)),
    (∀ t ∈ l1, TokOk t) → (∀ t ∈ l2, TokOk t) →
    l1.flatMap tokenBytes = l2.flatMap tokenBytes → l1.map tokB = l2.map tokB
  | [], [], _, _, _ => rfl
  | [], t :: l2, _, _, h => by
    have := flat_length_ge (t :: l2)
    rw [← h] at this
    simp at this
  | t :: l1, [], _, _, h => by
    have := flat_length_ge (t :: l1)
    rw [h] at this
    simp at this
  | t1 :: l1, t2 :: l2, h1, h2, h => by
    obtain ⟨ht, hr⟩ := tokenBytes_append_inj (h1 _ List.mem_cons_self) (h2 _ List.mem_cons_self) h
    rw [List.map_cons, List.map_cons, ht, flat_inj l1 l2 (fun t ht => h1 t (List.mem_cons_of_mem _ ht))
      (fun t ht => h2 t (List.mem_cons_of_mem _ ht)) hr]

theorem map_tokB_inj (l1 l2 : List (Option UInt8 × Digest)) (h1 : ∀ t ∈ l1, t.2.Valid)
    (h2 : ∀ t ∈ l2, t.2.Valid) (h : l1.map tokB = l2.map tokB) : l1 = l2 :=
  List.eq_of_map_eq_map h fun t ht t' ht' he => by
    obtain ⟨hd, hb⟩ := Prod.mk.inj he
    exact Prod.ext hd (Digest.bytes_inj (h1 t ht) (h2 t' ht') hb)

/-- the hypothesis of `image_injective`: no non-obscured walked element has a digest whose
first byte is 0, 1 or 2 -/
def PlainHeadsOk (e : Env) : Prop :=
  ∀ x ∈ elements e, x.isObscured = false →
    ∀ c, x.digest.bytes.head? = some c → c ≠ 0 ∧ c ≠ 1 ∧ c ≠ 2

def DigestsValid (e : Env) : Prop := ∀ x ∈ elements e, x.digest.Valid

theorem tokens_ok {e : Env} (he : PlainHeadsOk e) : ∀ t ∈ tokens e, TokOk t := by
  intro t ht
  rw [tokens_eq_elements, List.mem_map] at ht
  obtain ⟨x, hx, rfl⟩ := ht
  exact ⟨fun _ => disc_cases, fun hn => he x hx ((disc_eq_none_iff x).1 hn)⟩

/-- the image of the elided root is one token of 33 bytes; the image of a non-obscured root is 32
bytes or at least 64 -/
theorem image_elide_ne {e : Env} (he : e.isObscured = false) :
    structuralImage (elide e) ≠ structuralImage e := by
  have hE : tokens (.elided e.digest) = [(some 1, e.digest)] := rfl
  rw [elide_eq e, structuralImage_eq_tokens, structuralImage_eq_tokens, hE, tokens_eq_elements e,
    elements_eq, List.map_cons]
  generalize (e.children.flatMap elements).map tok = rest
  intro h
  have hl := congrArg List.length h
  simp only [List.flatMap_cons, List.flatMap_nil, List.append_nil, tokenBytes, tok,
    (disc_eq_none_iff e).2 he, Option.toList_some, Option.toList_none, List.nil_append,
    List.length_append, List.length_cons, List.length_nil, Digest.bytes_length] at hl
  cases rest with
  | nil => cases hl
  | cons t rest =>
    have := flat_length_ge (t :: rest)
    rw [List.length_cons] at this
    omega

/-- the filter used by `assertionsWithPredicate` -/
def matchesPred (a p : Env) : Bool :=
  match asPredicate a.subject with
  | some q => q.digest == p.digest
  | none => false

theorem awp_eq_filter (e p : Env) :
    assertionsWithPredicate e p = e.assertions.filter (fun a => matchesPred a p) := rfl

theorem matchesPred_iff (a p : Env) :
    matchesPred a p = true ↔ ∃ q o d, a.subject = .assertion q o d ∧ q.digest = p.digest := by
  unfold matchesPred
  cases hs : a.subject <;> simp [asPredicate]

theorem matchesPred_false_of {x p : Env}
    (hx : ∀ q ob d, x.subject = .assertion q ob d → q.digest ≠ p.digest) : matchesPred x p = false := by
  cases hm : matchesPred x p with
  | false => rfl
  | true =>
    obtain ⟨q, o, d, hs, hq⟩ := (matchesPred_iff x p).1 hm
    exact absurd hq (hx q o d hs)

theorem awp_perm {e p : Env} {l : List Env} (hp : e.assertions.Perm l) :
    (assertionsWithPredicate e p).Perm (l.filter fun a => matchesPred a p) := by
  rw [awp_eq_filter]; exact hp.filter _

theorem awp_of_perm {e p : Env} {l m : List Env} (hp : e.assertions.Perm l)
    (hf : l.filter (fun a => matchesPred a p) = m) (hm : m.length ≤ 1) :
    assertionsWithPredicate e p = m :=
  List.perm_eq_of_length_le_one ((awp_perm hp).trans (.of_eq hf)) hm

theorem mem_awp {e p a : Env} :
    a ∈ assertionsWithPredicate e p ↔
      a ∈ e.assertions ∧ ∃ q o d, a.subject = .assertion q o d ∧ q.digest = p.digest := by
  rw [awp_eq_filter, List.mem_filter, matchesPred_iff]

/-- replace the predicate of an assertion (bare, or the subject of a decorated one) by its
elided form -/
def elidePred : Env → Env
  | .assertion p o d => .assertion (.elided p.digest) o d
  | .node (.assertion p o d') as d => .node (.assertion (.elided p.digest) o d') as d
  | e => e

theorem matchesPred_elidePred (a p : Env) : matchesPred (elidePred a) p = matchesPred a p := by
  cases a with
  | node s as d => cases s <;> rfl
  | _ => rfl

theorem elidePred_digest (a : Env) : (elidePred a).digest = a.digest := by
  cases a with
  | node s as d => cases s <;> rfl
  | _ => rfl

theorem elidePred_wf (h : Hash) (a : Env) (hw : WF h a) : WF h (elidePred a) := by
  cases a with
  | node s as d =>
    cases s with
    | assertion p o d' =>
      obtain ⟨hs, has, hd⟩ := (WF_node ..).1 hw
      obtain ⟨_, ho, hd'⟩ := (WF_assertion ..).1 hs
      exact (WF_node ..).2 ⟨(WF_assertion ..).2 ⟨WF_elided .., ho, hd'⟩, has, hd⟩
    | _ => exact hw
  | assertion p o d =>
    obtain ⟨_, ho, hd⟩ := (WF_assertion ..).1 hw
    exact (WF_assertion ..).2 ⟨WF_elided .., ho, hd⟩
  | _ => exact hw

theorem awp_asObject {e p a : Env} (ha : a ∈ assertionsWithPredicate e p) :
    ∃ o, asObject a.subject = some o := by
  obtain ⟨_, q, o, d, hs, _⟩ := mem_awp.1 ha
  exact ⟨o, by rw [hs]; rfl⟩

/-- `objects_for_predicate` never fails -/
theorem objectsForPredicate_eq (e p : Env) :
    objectsForPredicate e p =
      .ok ((assertionsWithPredicate e p).filterMap fun a => asObject a.subject) := by
  have hl : ∀ a ∈ assertionsWithPredicate e p, ∃ o, asObject a.subject = some o :=
    fun _ => awp_asObject
  unfold objectsForPredicate
  generalize assertionsWithPredicate e p = l at hl
  induction l with
  | nil => rfl
  | cons a l ih =>
    obtain ⟨o, ho⟩ := hl a List.mem_cons_self
    simp only [List.foldr_cons, ih fun b hb => hl b (List.mem_cons_of_mem _ hb), ho,
      List.filterMap_cons]

theorem mem_objects {e p o : Env} :
    o ∈ (assertionsWithPredicate e p).filterMap (fun a => asObject a.subject) ↔
      ∃ a ∈ e.assertions, ∃ q d, a.subject = .assertion q o d ∧ q.digest = p.digest := by
  simp only [List.mem_filterMap, mem_awp]
  constructor
  · rintro ⟨a, ⟨hm, q, o', d, hs, hq⟩, hob⟩
    rw [hs] at hob
    cases hob
    exact ⟨a, hm, q, d, hs, hq⟩
  · rintro ⟨a, hm, q, d, hs, hq⟩
    exact ⟨a, ⟨hm, q, o, d, hs, hq⟩, by rw [hs]; rfl⟩

theorem errors_differ : "NonexistentPredicate" ≠ "AmbiguousPredicate" := by simp

theorem assertionWithPredicate_nil {e p : Env} (h0 : assertionsWithPredicate e p = []) :
    assertionWithPredicate e p = .err "NonexistentPredicate" := by
  rw [assertionWithPredicate, h0]

theorem assertionWithPredicate_single {e p a : Env} (h1 : assertionsWithPredicate e p = [a]) :
    assertionWithPredicate e p = .ok a := by
  rw [assertionWithPredicate, h1]

theorem assertionWithPredicate_many {e p : Env} (h2 : 2 ≤ (assertionsWithPredicate e p).length) :
    assertionWithPredicate e p = .err "AmbiguousPredicate" := by
  unfold assertionWithPredicate
  match assertionsWithPredicate e p, h2 with
  | _ :: _ :: _, _ => rfl

theorem ofp_nil {e p : Env} (h0 : assertionsWithPredicate e p = []) :
    objectForPredicate e p = .err "NonexistentPredicate" := by
  rw [objectForPredicate, assertionWithPredicate_nil h0]

theorem ofp_single {e p a o : Env} (h1 : assertionsWithPredicate e p = [a])
    (ho : asObject a.subject = some o) : objectForPredicate e p = .ok o := by
  simp only [objectForPredicate, assertionWithPredicate_single h1, ho]

theorem ofp_many {e p : Env} (h2 : 2 ≤ (assertionsWithPredicate e p).length) :
    objectForPredicate e p = .err "AmbiguousPredicate" := by
  rw [objectForPredicate, assertionWithPredicate_many h2]

theorem oofp_nil {e p : Env} (h0 : assertionsWithPredicate e p = []) :
    optionalObjectForPredicate e p = .ok none := by
  rw [optionalObjectForPredicate, h0]

theorem oofp_single {e p a o : Env} (h1 : assertionsWithPredicate e p = [a])
    (ho : asObject a.subject = some o) : optionalObjectForPredicate e p = .ok (some o) := by
  simp only [optionalObjectForPredicate, h1, ho]

theorem oofp_many {e p : Env} (h2 : 2 ≤ (assertionsWithPredicate e p).length) :
    optionalObjectForPredicate e p = .err "AmbiguousPredicate" := by
  unfold optionalObjectForPredicate
  match assertionsWithPredicate e p, h2 with
  | _ :: _ :: _, _ => rfl

theorem assertionWithPredicate_ne_panic (e p : Env) (s : String) :
    assertionWithPredicate e p ≠ .panic s := by
  unfold assertionWithPredicate
  split <;> exact nofun

theorem objectsForPredicate_ne_panic (e p : Env) (s : String) :
    objectsForPredicate e p ≠ .panic s := by
  rw [objectsForPredicate_eq]; exact nofun

theorem objectForPredicate_ne_panic (e p : Env) (s : String) :
    objectForPredicate e p ≠ .panic s := by
  match hl : assertionsWithPredicate e p with
  | [] => rw [ofp_nil hl]; exact nofun
  | [a] =>
    obtain ⟨o, ho⟩ := awp_asObject (hl ▸ List.mem_cons_self : a ∈ assertionsWithPredicate e p)
    rw [ofp_single hl ho]; exact nofun
  | _ :: _ :: _ => rw [ofp_many (hl ▸ Nat.le_add_left 2 _)]; exact nofun

theorem optionalObjectForPredicate_ne_panic (e p : Env) (s : String) :
    optionalObjectForPredicate e p ≠ .panic s := by
  match hl : assertionsWithPredicate e p with
  | [] => rw [oofp_nil hl]; exact nofun
  | [a] =>
    obtain ⟨o, ho⟩ := awp_asObject (hl ▸ List.mem_cons_self : a ∈ assertionsWithPredicate e p)
    rw [oofp_single hl ho]; exact nofun
  | _ :: _ :: _ => rw [oofp_many (hl ▸ Nat.le_add_left 2 _)]; exact nofun

theorem awp_add_perm {h : Hash} {e a r : Env} (p : Env)
    (hn : ∀ x ∈ e.assertions, x.digest ≠ a.digest) (hr : addAssertionEnvelope h e a = .ok r) :
    (assertionsWithPredicate r p).Perm
      (assertionsWithPredicate e p ++ if matchesPred a p then [a] else []) := by
  rw [awp_eq_filter, awp_eq_filter, add_assertions hr]
  refine ((normAdd_perm hn).filter _).trans ?_
  rw [List.filter_append, List.filter_cons, List.filter_nil]

theorem awp_add_single {h : Hash} {e a r p : Env}
    (hn : ∀ x ∈ e.assertions, x.digest ≠ a.digest) (hnone : assertionsWithPredicate e p = [])
    (hm : matchesPred a p = true) (hr : addAssertionEnvelope h e a = .ok r) :
    assertionsWithPredicate r p = [a] := by
  have := awp_add_perm p hn hr
  rw [hnone, hm] at this
  exact List.perm_singleton.1 this

theorem elementsList_eq (as : List Env) : elementsList as = as.flatMap elements :=
  EnvVerif.elementsList_eq as

theorem elementsCountList_eq (as : List Env) :
    elementsCountList as = (as.map elementsCount).sum :=
  EnvVerif.elementsCountList_eq as

end AW
end EnvVerif
