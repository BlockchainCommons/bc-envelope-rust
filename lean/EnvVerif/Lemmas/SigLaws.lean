/-
  Lemmas/SigLaws.lean — the idealised signing interface that the theorems of C09 (signatures)
  are relative to, their vocabulary, and a toy instance for which the laws are *proved* (so the
  hypotheses are satisfiable and examples compute).

  `Model/Signature.lean` is parametric in a `SigScheme` (`verify key sig msg`).  The signing
  side is a `Signer`: `sign k m` is the signature object (its CBOR) that the holder of the
  secret key `k` produces over the digest `m`; key ids double as public-key ids.  Randomised
  schemes are covered by fixing the random choice: the laws speak about *one* signature per
  `(k, m)`, and nothing needs the signer to be the only source of valid signatures.

  `SigLaws V S` is a hypothesis of theorems, never an axiom.  Its `sep`, about the signer's own
  signatures only, is all that C09 uses of the scheme's security; it is strictly weaker than
  unforgeability (a `verify` that also accepts objects the signer never made can satisfy it) and
  follows from "perfect authenticity + injectivity of `sign`" (`SigLaws.of_unforgeable`).
-/
import EnvVerif.Model.Signature
namespace EnvVerif
open Env

structure Signer where
  sign : Nat → Digest → Cbor

structure SigLaws (V : SigScheme) (S : Signer) : Prop where
  /-- tag 40020 is all that the model's `extractSignature` asks of a `Signature` -/
  tagged : ∀ k m, ∃ x, S.sign k m = .tagged TAG_SIGNATURE x
  correct : ∀ k m, V.verify k (S.sign k m) m = true
  /-- a signature belongs to one key and one message -/
  sep : ∀ k k' m m', V.verify k' (S.sign k m) m' = true → k' = k ∧ m' = m

theorem SigLaws.of_unforgeable {V : SigScheme} {S : Signer}
    (tagged : ∀ k m, ∃ x, S.sign k m = .tagged TAG_SIGNATURE x)
    (correct : ∀ k m, V.verify k (S.sign k m) m = true)
    (unforgeable : ∀ k s m, V.verify k s m = true → s = S.sign k m)
    (inj : ∀ k m k' m', S.sign k m = S.sign k' m' → k = k' ∧ m = m') : SigLaws V S where
  tagged := tagged
  correct := correct
  sep := by
    intro k k' m m' hv
    obtain ⟨h1, h2⟩ := inj _ _ _ _ (unforgeable _ _ _ hv)
    exact ⟨h1.symm, h2.symm⟩

namespace SigL

def signedKV (h : Hash) : Env := newKnownValue h KV_SIGNED

/-- `objects_for_predicate(known_values::SIGNED)`: the objects of the `'signed'` assertions, in
the stored order (`signedObjects_spec` in C09) -/
def signedObjects (h : Hash) (e : Env) : List Env :=
  (assertionsWithPredicate e (signedKV h)).filterMap fun a => asObject a.subject

/-- `x` is a readable `Signature` that verifies `msg` under `key` -/
def ReadableSigBy (V : SigScheme) (key : Nat) (x : Env) (msg : Digest) : Prop :=
  ∃ s, extractSignature x = some s ∧ V.verify key s msg = true

def sigAssertion (h : Hash) (o : Env) : Env := newAssertion h (signedKV h) o

/-- `add_assertion_envelope` ignores an assertion whose digest is already present.
`NotShadowed`: in `e.assertions` only `'signed': o` itself may carry its digest (so the assertion
is either new, or already there unobscured). -/
def NotShadowed (h : Hash) (e o : Env) : Prop :=
  ∀ x ∈ e.assertions, x.digest = (sigAssertion h o).digest → x = sigAssertion h o

/-- the signature-with-metadata envelope of `add_signature_opt`: the signature leaf with the
metadata assertions added one by one (`.unwrap()`ed) -/
def metaEnvelope (h : Hash) (sig : Cbor) (metadata : List Env) : Res Env :=
  metadata.foldl (fun acc a => acc.bind fun x =>
    match addAssertionEnvelope h x a with
    | .ok y => .ok y
    | .err _ => .panic "signature_impl.rs:add_signature_opt:unwrap"
    | .panic p => .panic p) (Res.ok (newLeaf h sig))

/-- the `'signed'` object that `add_signature_opt` builds when there is metadata: the wrapped
metadata envelope `m`, itself carrying `'signed': outer(wrapper)` -/
def signedWrapper (h : Hash) (m : Env) (outer : Env → Cbor) : Env :=
  mkNode h (wrap h m) [sigAssertion h (newLeaf h (outer (wrap h m)))]

def validCount (valid : Nat → Bool) (keys : List Nat) : Nat := keys.countP valid

namespace Toy

/-- signature = `#6.40020([key, digest value])` -/
def signer : Signer := ⟨fun k m => .tagged TAG_SIGNATURE (.array [.uint k, .uint m.val])⟩

def scheme : SigScheme :=
  ⟨fun key sig msg =>
    match sig with
    | .tagged t (.array [.uint k, .uint m]) => t == TAG_SIGNATURE && k == key && m == msg.val
    | _ => false⟩

theorem verify_iff (key : Nat) (sig : Cbor) (msg : Digest) :
    scheme.verify key sig msg = true ↔ sig = signer.sign key msg := by
  unfold scheme signer
  constructor
  · intro hv
    simp only at hv
    split at hv
    · simp only [Bool.and_eq_true, beq_iff_eq] at hv
      obtain ⟨⟨h1, h2⟩, h3⟩ := hv
      subst h1 h2 h3; rfl
    · cases hv
  · intro hs
    subst hs
    simp

theorem laws : SigLaws scheme signer :=
  SigLaws.of_unforgeable (fun _ _ => ⟨_, rfl⟩) (fun k m => (verify_iff k _ m).2 rfl)
    (fun k s m hv => (verify_iff k s m).1 hv)
    (by
      intro k m k' m' he
      simp only [signer, Cbor.tagged.injEq, Cbor.array.injEq, List.cons.injEq, Cbor.uint.injEq,
        and_true, true_and] at he
      obtain ⟨h1, h2⟩ := he
      exact ⟨h1, by cases m; cases m'; simp_all⟩)

/-- a toy hash with 32-byte values that the kernel can evaluate -/
def hash : Hash := ⟨fun b => ⟨(b.foldl (fun acc x => acc * 31 + x.toNat + 1) 7) % 2 ^ 256⟩⟩

end Toy
end SigL
end EnvVerif
