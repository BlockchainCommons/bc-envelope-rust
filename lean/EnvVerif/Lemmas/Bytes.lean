/-
  Lemmas/Bytes.lean — big-endian byte strings (`beNat`, `beBytes`), digests as 32 bytes, and the
  byte order `Cbor.bytesLt` (dCBOR's order of map keys) as core's lexicographic `<`.
-/
import EnvVerif.Model.Env
namespace EnvVerif

theorem beNat_append (a b : Bytes) : beNat (a ++ b) = beNat a * 256 ^ b.length + beNat b := by
  have key : ∀ (b : Bytes) (acc : Nat),
      b.foldl (fun acc x => acc * 256 + x.toNat) acc = acc * 256 ^ b.length + beNat b := by
    intro b
    induction b with
    | nil => intro acc; simp [beNat]
    | cons x t ih =>
      intro acc
      simp only [beNat, List.foldl_cons, List.length_cons]
      rw [ih (acc * 256 + x.toNat), ih (0 * 256 + x.toNat), Nat.pow_succ]
      generalize 256 ^ t.length = P
      rw [Nat.add_mul, Nat.add_mul, Nat.zero_mul, Nat.mul_right_comm acc 256 P,
        ← Nat.mul_assoc acc P 256]
      omega
  rw [beNat, List.foldl_append, key]; rfl

theorem beBytes_length : ∀ (len n : Nat), (beBytes len n).length = len
  | 0, _ => rfl
  | len + 1, n => by simp [beBytes, beBytes_length len]

theorem beNat_beBytes : ∀ (len n : Nat), beNat (beBytes len n) = n % 256 ^ len
  | 0, n => by simp [beBytes, beNat, Nat.mod_one]
  | len + 1, n => by
    rw [beBytes, beNat_append, beNat_beBytes len]
    have h1 : beNat [UInt8.ofNat (n % 256)] = n % 256 := by
      simp [beNat, UInt8.toNat_ofNat']
    rw [h1, Nat.pow_succ, Nat.mul_comm (256 ^ len) 256, Nat.mod_mul]
    simp only [List.length_singleton, Nat.pow_one]
    omega

theorem beBytes_beNat : ∀ (len : Nat) (b : Bytes), b.length = len → beBytes len (beNat b) = b
  | 0, b, hl => by
    have : b = [] := List.eq_nil_of_length_eq_zero hl
    subst this; rfl
  | len + 1, b, hl => by
    have hne : b ≠ [] := by intro h0; subst h0; simp at hl
    have hb : b = b.dropLast ++ [b.getLast hne] := (List.dropLast_concat_getLast hne).symm
    have hl' : b.dropLast.length = len := by simp [List.length_dropLast, hl]
    have h0 : beNat [b.getLast hne] = (b.getLast hne).toNat := by simp [beNat]
    rw [hb, beBytes, beNat_append, h0]
    simp only [List.length_singleton, Nat.pow_one]
    have hx : (b.getLast hne).toNat < 256 := UInt8.toNat_lt _
    have h1 : (beNat b.dropLast * 256 + (b.getLast hne).toNat) / 256 = beNat b.dropLast := by omega
    have h2 : (beNat b.dropLast * 256 + (b.getLast hne).toNat) % 256 = (b.getLast hne).toNat := by omega
    rw [h1, h2, beBytes_beNat len _ hl']
    simp

theorem beNat_lt (b : Bytes) : beNat b < 256 ^ b.length := by
  have h1 := beNat_beBytes b.length (beNat b)
  rw [beBytes_beNat b.length b rfl] at h1
  rw [h1]
  exact Nat.mod_lt _ (Nat.pow_pos (by omega))

theorem beBytes_inj (n a b : Nat) (ha : a < 256 ^ n) (hb : b < 256 ^ n)
    (h : beBytes n a = beBytes n b) : a = b := by
  have := congrArg beNat h
  rwa [beNat_beBytes, beNat_beBytes, Nat.mod_eq_of_lt ha, Nat.mod_eq_of_lt hb] at this

@[simp] theorem Digest.bytes_length (d : Digest) : d.bytes.length = 32 := beBytes_length 32 d.val

theorem Digest.bytes_inj {d1 d2 : Digest} (h1 : d1.Valid) (h2 : d2.Valid)
    (h : d1.bytes = d2.bytes) : d1 = d2 :=
  congrArg Digest.mk (beBytes_inj 32 _ _ h1 h2 h)

theorem catDigests_cons (d : Digest) (ds : List Digest) :
    catDigests (d :: ds) = d.bytes ++ catDigests ds := by
  simp [catDigests]

theorem catDigests_length (ds : List Digest) : (catDigests ds).length = 32 * ds.length := by
  induction ds with
  | nil => rfl
  | cons d ds ih =>
    rw [catDigests_cons, List.length_append, Digest.bytes_length, ih, List.length_cons]
    omega

theorem catDigests_inj (l1 : List Digest) : ∀ (l2 : List Digest), (∀ d ∈ l1, d.Valid) →
    (∀ d ∈ l2, d.Valid) → catDigests l1 = catDigests l2 → l1 = l2 := by
  induction l1 with
  | nil =>
    intro l2 _ _ he
    cases l2 with
    | nil => rfl
    | cons d ds => exact absurd (congrArg List.length he) (by simp [catDigests_length])
  | cons d1 l1 ih =>
    intro l2 h1 h2 he
    cases l2 with
    | nil => exact absurd (congrArg List.length he) (by simp [catDigests_length])
    | cons d2 l2 =>
      rw [catDigests_cons, catDigests_cons] at he
      obtain ⟨ha, hb⟩ := List.append_inj he (by rw [Digest.bytes_length, Digest.bytes_length])
      rw [Digest.bytes_inj (h1 d1 List.mem_cons_self) (h2 d2 List.mem_cons_self) ha,
        ih l2 (fun d hd => h1 d (List.mem_cons_of_mem _ hd))
          (fun d hd => h2 d (List.mem_cons_of_mem _ hd)) hb]

/-- `Digest::try_from(bytes)` accepts exactly the 32-byte strings of valid digests -/
theorem Digest.ofBytes_eq_some {b : Bytes} {d : Digest} :
    Digest.ofBytes? b = some d ↔ d.bytes = b ∧ d.Valid := by
  have pow256 : (256 : Nat) ^ 32 = 2 ^ 256 := by decide
  unfold Digest.ofBytes? Digest.bytes Digest.Valid
  constructor
  · intro hd
    split at hd
    · rename_i hl
      cases hd
      have := beNat_lt b
      rw [hl, pow256] at this
      exact ⟨beBytes_beNat 32 b hl, this⟩
    · cases hd
  · rintro ⟨rfl, hv⟩
    rw [if_pos (beBytes_length 32 _), beNat_beBytes, pow256, Nat.mod_eq_of_lt hv]

theorem Digest.ofBytes_bytes {d : Digest} (hd : d.Valid) : Digest.ofBytes? d.bytes = some d :=
  Digest.ofBytes_eq_some.2 ⟨rfl, hd⟩

end EnvVerif

namespace EnvVerif.Cbor

theorem bytesLt_iff_lt : ∀ {a b : Bytes}, bytesLt a b = true ↔ a < b
  | [], [] => by simp [bytesLt]
  | [], _ :: _ => by simp [bytesLt]
  | _ :: _, [] => by simp [bytesLt]
  | x :: xs, y :: ys => by
    rw [bytesLt, List.cons_lt_cons_iff, ← bytesLt_iff_lt (a := xs)]
    by_cases h1 : x < y
    · simp [h1]
    · by_cases h2 : y < x
      · have : x ≠ y := by rintro rfl; exact h1 h2
        simp [h1, h2, this]
      · have : x = y := UInt8.le_antisymm (UInt8.not_lt.mp h2) (UInt8.not_lt.mp h1)
        simp [this]

theorem bytesLt_trans (a b c : Bytes) (h1 : bytesLt a b = true) (h2 : bytesLt b c = true) :
    bytesLt a c = true :=
  bytesLt_iff_lt.mpr (List.lt_trans (bytesLt_iff_lt.mp h1) (bytesLt_iff_lt.mp h2))

theorem bytesLt_irrefl (a : Bytes) : bytesLt a a = false :=
  Bool.eq_false_iff.mpr fun h => List.lt_irrefl a (bytesLt_iff_lt.mp h)

theorem bytesLt_asymm (a b : Bytes) (h : bytesLt a b = true) : bytesLt b a = false :=
  Bool.eq_false_iff.mpr fun h' => List.lt_asymm (bytesLt_iff_lt.mp h) (bytesLt_iff_lt.mp h')

theorem bytesLt_trichotomy (a b : Bytes) (h1 : bytesLt a b = false) (h2 : bytesLt b a = false) : a = b :=
  List.le_antisymm (fun h => Bool.eq_false_iff.mp h2 (bytesLt_iff_lt.mpr h))
    (fun h => Bool.eq_false_iff.mp h1 (bytesLt_iff_lt.mpr h))

end EnvVerif.Cbor
