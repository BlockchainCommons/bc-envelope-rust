/-
  Lemmas/RecipientLemmas.lean — helper lemmas for C10 (public-key recipients): closed forms
  of the recipient functions of `Model/Recipient.lean`; `namespace Ex`: sample data for the
  examples of C10 (`nd` and `ck` also of C11).
-/
import EnvVerif.Lemmas.RecipientLaws
import EnvVerif.Lemmas.WalkLemmas
import EnvVerif.Lemmas.ObscureLemmas
import EnvVerif.Lemmas.InvLemmas
namespace EnvVerif
namespace RecL
open Env

theorem digest_node (s : Env) (as : List Env) (d : Digest) : (Env.node s as d).digest = d := rfl
theorem digest_encrypted (m : EncMsg) (d : Digest) : (Env.encrypted m d).digest = d := rfl

section
variable (h : Hash)

theorem rebuild_cons (s a : Env) (as : List Env) :
    AW.rebuild h s (a :: as) =
      .node s (a :: as) (h.ofDigests (s.digest :: (a :: as).map Env.digest)) := rfl

theorem rebuild_node_ne {s : Env} (hs : s.isNode = false) (as : List Env) :
    ∀ s' as' d, AW.rebuild h s as = .node s' as' d → as' ≠ [] := by
  intro s' as' d he
  cases as with
  | nil =>
    simp only [AW.rebuild] at he
    rw [he] at hs; cases hs
  | cons a as =>
    simp only [rebuild_cons, Env.node.injEq] at he
    rw [← he.2.1]; simp

/-- what `first_plaintext_in_sealed_messages` gets out of one sealed message: nothing when
the scheme differs (`unsealMsg` is not consulted), else what `unsealMsg` returns -/
def opens (K : Kem) (key : Nat) (s : Cbor) : Option Bytes :=
  if K.schemeOfSealed s != K.schemeOfKey key then none else K.unsealMsg key s

/-- `add_assertion_envelope` ignores an assertion whose digest an element of the envelope
already carries.  `NoShadow e l`: among the assertions of `e` and the assertions `l` to be
added, only an added assertion itself carries its digest (no elided or otherwise different
element with it; no hash collision among them). -/
def NoShadow (e : Env) (l : List Env) : Prop :=
  ∀ a ∈ l, ∀ y, (y ∈ e.assertions ∨ y ∈ l) → y.digest = a.digest → y = a

abbrev recKV (h : Hash) : Env := newKnownValue h KV_HAS_RECIPIENT

def recAs (sealeds : List Cbor) : List Env := sealeds.map (hasRecipientAssertion h)

theorem addRecipient_eq (e : Env) (s : Cbor) :
    addRecipient h e s = addAssertionEnvelope h e (hasRecipientAssertion h s) :=
  AW.add_unwrap h rfl _

theorem recAs_all_slotOk (sealeds : List Cbor) : (recAs h sealeds).all slotOk = true := by
  simp only [recAs, List.all_map, List.all_eq_true]
  intro s _
  rfl

variable (A : Aead)

/-- the envelope built by `encrypt_subject_to_recipients` -/
def built (ck n : Bytes) (sealeds : List Cbor) (e : Env) : Env :=
  AW.rebuild h (Obs.encSubj A ck n e.subject) ((recAs h sealeds).foldl AW.normAdd e.assertions)

/-- the envelope obtained by adding the same `'hasRecipient'` assertions without encrypting -/
def builtPlain (sealeds : List Cbor) (e : Env) : Env :=
  AW.rebuild h e.subject ((recAs h sealeds).foldl AW.normAdd e.assertions)

theorem addAll_builtPlain (sealeds : List Cbor) {e : Env} (hi : Inv h e) :
    addAll h e (recAs h sealeds) = .ok (builtPlain h sealeds e) :=
  (AW.addAll_of_inv hi _).trans (if_pos (recAs_all_slotOk h sealeds))

theorem addRecipients_eq_addAll (e : Env) (sealeds : List Cbor) :
    sealeds.foldl (fun (acc : Res Env) s => acc.bind fun y => addRecipient h y s) (Res.ok e) =
      addAll h e (recAs h sealeds) := by
  simp only [addAll, recAs, List.foldl_map, addRecipient_eq]

theorem addRecipients_of_inv {e : Env} (hi : Inv h e) (sealeds : List Cbor) :
    sealeds.foldl (fun (acc : Res Env) s => acc.bind fun y => addRecipient h y s) (Res.ok e) =
      Res.ok (builtPlain h sealeds e) :=
  (addRecipients_eq_addAll h e sealeds).trans (addAll_builtPlain h sealeds hi)

theorem encSubj_isNode (ck n : Bytes) (s : Env) : (Obs.encSubj A ck n s).isNode = false := rfl

theorem encryptSubjectToRecipients_eq (ck n : Bytes) (sealeds : List Cbor) {e : Env} (hi : Inv h e)
    (hH : ∀ b, (h.H b).Valid) :
    encryptSubjectToRecipients h A ck n sealeds e =
      match Obs.encryptRefusal e with
      | some x => .err x
      | none => .ok (built h A ck n sealeds e) := by
  unfold encryptSubjectToRecipients
  rw [Obs.encryptSubject_eq_of_hashValid h A ck n hi hH]
  cases hf : Obs.encryptRefusal e with
  | some x => rfl
  | none =>
    simp only
    have hi' := Obs.encryptSubjectSpec_inv h A ck n hi hH
    rw [addRecipients_of_inv h hi', builtPlain, Obs.encryptSubjectSpec_subject,
      Obs.encryptSubjectSpec_assertions]
    rfl

theorem encryptSubjectToRecipients_ok {ck n : Bytes} {sealeds : List Cbor} {e r : Env}
    (hi : Inv h e) (hH : ∀ b, (h.H b).Valid)
    (hr : encryptSubjectToRecipients h A ck n sealeds e = .ok r) :
    r = built h A ck n sealeds e ∧ Obs.encryptRefusal e = none := by
  rw [encryptSubjectToRecipients_eq h A ck n sealeds hi hH] at hr
  split at hr
  · cases hr
  · cases hr; exact ⟨rfl, ‹_›⟩

/-- `encrypt_to_recipient` in closed form (its `unwrap()` never fires).  Later proofs use
this equation and never unfold `encryptToRecipient`: comparing the folded call with the
`match` on `encryptSubject .. (wrap h e)` makes the kernel run the model on `.wrapped e _`
as far as the CBOR decoder on the aad. -/
theorem encryptToRecipient_eq (ck n : Bytes) (s : Cbor) {e : Env} (hi : Inv h e)
    (hH : ∀ b, (h.H b).Valid) :
    encryptToRecipient h A ck n s e = .ok (built h A ck n [s] (wrap h e)) := by
  unfold encryptToRecipient
  rw [encryptSubjectToRecipients_eq h A ck n [s] (e := wrap h e) hi.newWrapped hH]
  rfl

theorem built_subject (ck n : Bytes) (sealeds : List Cbor) (e : Env) :
    (built h A ck n sealeds e).subject = Obs.encSubj A ck n e.subject :=
  AW.rebuild_subject h (Or.inl rfl)

theorem built_assertions (ck n : Bytes) (sealeds : List Cbor) (e : Env) :
    (built h A ck n sealeds e).assertions = (recAs h sealeds).foldl AW.normAdd e.assertions :=
  AW.rebuild_assertions h (Or.inl rfl)

theorem built_assertions_sub (ck n : Bytes) (sealeds : List Cbor) (e : Env) :
    ∀ x ∈ (built h A ck n sealeds e).assertions, x ∈ e.assertions ∨ x ∈ recAs h sealeds := by
  intro x hx
  rw [built_assertions] at hx
  exact AW.mem_foldl_normAdd_sub _ hx

theorem builtPlain_subject (sealeds : List Cbor) {e : Env} (hi : Inv h e) :
    (builtPlain h sealeds e).subject = e.subject :=
  (AW.addAll_ok _ (addAll_builtPlain h sealeds hi)).2.1

theorem built_assertions_plain (ck n : Bytes) (sealeds : List Cbor) {e : Env} (hi : Inv h e) :
    (built h A ck n sealeds e).assertions = (builtPlain h sealeds e).assertions :=
  (built_assertions h A ck n sealeds e).trans (AW.addAll_ok _ (addAll_builtPlain h sealeds hi)).2.2.symm

theorem built_digest (ck n : Bytes) (sealeds : List Cbor) (e : Env) :
    (built h A ck n sealeds e).digest = (builtPlain h sealeds e).digest := by
  unfold built builtPlain
  cases (recAs h sealeds).foldl AW.normAdd e.assertions <;> rfl

theorem built_inv (ck n : Bytes) (sealeds : List Cbor) {e : Env} (hi : Inv h e)
    (hH : ∀ b, (h.H b).Valid) : Inv h (built h A ck n sealeds e) := by
  refine AW.inv_rebuild_add hi ?_ (fun a ha => ?_)
  · rw [← Obs.encryptSubjectSpec_subject]
    exact (Obs.encryptSubjectSpec_inv h A ck n hi hH).subject
  · obtain ⟨s, _, rfl⟩ := List.mem_map.1 ha
    exact ⟨Inv.newAssertion (Inv.newKnownValue h _) (Inv.newLeaf h s), rfl⟩

theorem decryptSubject_built (L : AeadLaws A) (ck n : Bytes) (sealeds : List Cbor) {e : Env}
    (hi : Inv h e) (hH : ∀ b, (h.H b).Valid) (hrt : RoundTrips h e.subject) :
    decryptSubject h A ck (built h A ck n sealeds e) = .ok (builtPlain h sealeds e) :=
  Obs.decryptSubject_rebuild h A L ck n (hi.subject.digest_valid hH) hrt
    (AW.foldl_normAdd_asc _ hi.2.asc)

end

/-- the sealed message an assertion contributes to `recipients()`: none when its object is
obscured -/
def sealedOf (a : Env) : Option Cbor :=
  match asObject a.subject with
  | some o => if o.isObscured then none else extractSealed o
  | none => none

/-- an assertion over which `recipients()` neither fails nor panics -/
def GoodRec (a : Env) : Prop :=
  ∃ o, asObject a.subject = some o ∧ (o.isObscured = true ∨ (extractSealed o).isSome = true)

theorem recipientsLoop_ok_iff : ∀ (l : List Env) (L : List Cbor),
    recipientsLoop l = .ok L ↔ (∀ a ∈ l, GoodRec a) ∧ L = l.filterMap sealedOf
  | [], L => by
    simp only [recipientsLoop, Res.ok.injEq, List.not_mem_nil, false_imp_iff, implies_true,
      List.filterMap_nil, true_and]
    exact eq_comm
  | a :: l, L => by
    unfold recipientsLoop
    cases ho : asObject a.subject with
    | none =>
      simp only [reduceCtorEq, false_iff, not_and]
      intro hg
      obtain ⟨o, ho', _⟩ := hg a List.mem_cons_self
      rw [ho] at ho'; cases ho'
    | some o =>
      simp only
      by_cases hob : o.isObscured = true
      · have hso : sealedOf a = none := by simp [sealedOf, ho, hob]
        have hga : GoodRec a := ⟨o, ho, Or.inl hob⟩
        simp only [hob, if_true, recipientsLoop_ok_iff l L, List.mem_cons, forall_eq_or_imp, hga,
          true_and, List.filterMap_cons, hso]
      · have hob' : o.isObscured = false := by simpa using hob
        simp only [hob', Bool.false_eq_true, if_false]
        cases hx : extractSealed o with
        | none =>
          simp only [reduceCtorEq, false_iff, not_and]
          intro hg
          obtain ⟨o', ho', hc⟩ := hg a List.mem_cons_self
          rw [ho] at ho'; cases ho'
          rcases hc with hc | hc
          · rw [hob'] at hc; cases hc
          · rw [hx] at hc; cases hc
        | some s =>
          have hso : sealedOf a = some s := by simp [sealedOf, ho, hob', hx]
          have hga : GoodRec a := ⟨o, ho, Or.inr (by rw [hx]; rfl)⟩
          simp only [List.mem_cons, forall_eq_or_imp, hga, true_and, List.filterMap_cons, hso]
          cases hr : recipientsLoop l with
          | ok L' =>
            obtain ⟨hg1, hg2⟩ := (recipientsLoop_ok_iff l L').1 hr
            simp only [Res.ok.injEq, ← hg2]
            exact ⟨fun hh => ⟨hg1, hh.symm⟩, fun hh => hh.2.symm⟩
          | _ =>
            simp only [reduceCtorEq, false_iff, not_and]
            intro hg hL
            have := (recipientsLoop_ok_iff l _).2 ⟨hg, rfl⟩
            rw [hr] at this; cases this

theorem recipientsLoop_ne_panic : ∀ (l : List Env), (∀ a ∈ l, ∃ o, asObject a.subject = some o) →
    ∀ p, recipientsLoop l ≠ .panic p
  | [], _, p => by simp [recipientsLoop]
  | a :: l, hl, p => by
    have ih := recipientsLoop_ne_panic l (fun b hb => hl b (List.mem_cons_of_mem _ hb))
    obtain ⟨o, ho⟩ := hl a List.mem_cons_self
    unfold recipientsLoop
    simp only [ho]
    split
    · exact ih p
    · split
      · nofun
      · cases hr : recipientsLoop l with
        | panic x => exact absurd hr (ih x)
        | _ => nofun

section
variable (h : Hash)

/-- `recipients()` never panics: `as_object().unwrap()` is applied to assertions only -/
theorem recipients_ne_panic (e : Env) (p : String) : recipients h e ≠ .panic p :=
  recipientsLoop_ne_panic _ (fun _ ha => AW.awp_asObject ha) p

theorem recipients_ok_iff (e : Env) (L : List Cbor) :
    recipients h e = .ok L ↔
      (∀ a ∈ assertionsWithPredicate e (recKV h), GoodRec a) ∧
        L = (assertionsWithPredicate e (recKV h)).filterMap sealedOf :=
  recipientsLoop_ok_iff _ L

theorem matches_recA (s : Cbor) : AW.matchesPred (hasRecipientAssertion h s) (recKV h) = true :=
  (AW.matchesPred_iff _ _).2 ⟨_, _, _, rfl, rfl⟩

theorem sealedOf_recA {s : Cbor} (hs : ∃ x, s = .tagged TAG_SEALED_MESSAGE x) :
    sealedOf (hasRecipientAssertion h s) = some s := by
  obtain ⟨x, rfl⟩ := hs
  simp [sealedOf, hasRecipientAssertion, newAssertion, newLeaf, Env.subject, asObject, isObscured,
    isElided, isEncrypted, isCompressed, extractSealed]

theorem goodRec_recA {s : Cbor} (hs : ∃ x, s = .tagged TAG_SEALED_MESSAGE x) :
    GoodRec (hasRecipientAssertion h s) := by
  obtain ⟨x, rfl⟩ := hs
  exact ⟨newLeaf h _, rfl, Or.inr (by simp [newLeaf, extractSealed])⟩

theorem recipients_of_assertions {e r : Env} {olds sealeds : List Cbor}
    (hold : recipients h e = .ok olds)
    (hsub : ∀ x ∈ r.assertions, x ∈ e.assertions ∨ x ∈ recAs h sealeds)
    (htag : ∀ s ∈ sealeds, ∃ x, s = .tagged TAG_SEALED_MESSAGE x) :
    ∃ R, recipients h r = .ok R ∧
      (∀ s ∈ R, s ∈ olds ∨ s ∈ sealeds) ∧
      (∀ a ∈ r.assertions, ∀ s, AW.matchesPred a (recKV h) = true → sealedOf a = some s → s ∈ R) := by
  obtain ⟨hgood, holds⟩ := (recipients_ok_iff h e olds).1 hold
  have hcase : ∀ a ∈ assertionsWithPredicate r (recKV h),
      a ∈ assertionsWithPredicate e (recKV h) ∨ ∃ s ∈ sealeds, hasRecipientAssertion h s = a := by
    intro a ha
    obtain ⟨har, hm⟩ := List.mem_filter.1 ha
    exact (hsub a har).imp (fun h1 => List.mem_filter.2 ⟨h1, hm⟩) List.mem_map.1
  refine ⟨_, (recipients_ok_iff h r _).2 ⟨fun a ha => ?_, rfl⟩, fun s hs => ?_, fun a ha s hm hsa =>
    List.mem_filterMap.2 ⟨a, List.mem_filter.2 ⟨ha, hm⟩, hsa⟩⟩
  · rcases hcase a ha with h1 | ⟨s, hs, rfl⟩
    · exact hgood a h1
    · exact goodRec_recA h (htag s hs)
  · obtain ⟨a, ha, hsa⟩ := List.mem_filterMap.1 hs
    rcases hcase a ha with h1 | ⟨s', hs', rfl⟩
    · exact Or.inl (holds ▸ List.mem_filterMap.2 ⟨a, h1, hsa⟩)
    · rw [sealedOf_recA h (htag s' hs')] at hsa
      cases hsa
      exact Or.inr hs'

end

theorem firstPlaintext_eq (K : Kem) (key : Nat) : ∀ (l : List Cbor),
    firstPlaintext K key l =
      match l.findSome? (opens K key) with
      | some p => .ok p
      | none => .err "UnknownRecipient"
  | [] => rfl
  | s :: l => by
    unfold firstPlaintext
    rw [List.findSome?_cons]
    unfold opens
    by_cases hsch : (K.schemeOfSealed s != K.schemeOfKey key) = true
    · simp only [hsch, if_true]
      exact firstPlaintext_eq K key l
    · simp only [hsch, Bool.false_eq_true, if_false]
      cases K.unsealMsg key s with
      | some p => rfl
      | none => exact firstPlaintext_eq K key l

theorem firstPlaintext_ne_panic (K : Kem) (key : Nat) (l : List Cbor) (p : String) :
    firstPlaintext K key l ≠ .panic p := by
  rw [firstPlaintext_eq]
  cases l.findSome? (opens K key) <;> nofun

/-- an added sealed message does not disturb a key that cannot open it -/
theorem firstPlaintext_skip {K : Kem} {key : Nat} {s : Cbor} (hno : opens K key s = none)
    (l1 l2 : List Cbor) :
    firstPlaintext K key (l1 ++ s :: l2) = firstPlaintext K key (l1 ++ l2) := by
  simp only [firstPlaintext_eq, List.findSome?_append, List.findSome?_cons, hno]

theorem opens_seal {K : Kem} {S : Sealer} (L : KemLaws K S) (k : Nat) (p : Bytes) (r : Nat) :
    opens K k (S.sealTo k p r) = some p := by
  simp [opens, L.scheme, L.unseal_seal]

theorem opens_seal_other {K : Kem} {S : Sealer} (L : KemLaws K S) {k k' : Nat} (p : Bytes) (r : Nat)
    (hk : k' ≠ k) : opens K k' (S.sealTo k p r) = none := by
  unfold opens
  split
  · rfl
  · cases hu : K.unsealMsg k' (S.sealTo k p r) with
    | none => rfl
    | some q => exact absurd (L.unseal_only _ _ _ _ _ hu) hk

theorem opens_congr {K K' : Kem} {key : Nat} (hs : K'.schemeOfSealed = K.schemeOfSealed)
    (hk : K'.schemeOfKey key = K.schemeOfKey key)
    (hu : ∀ s, K.schemeOfSealed s = K.schemeOfKey key → K'.unsealMsg key s = K.unsealMsg key s) :
    opens K' key = opens K key := by
  funext s
  unfold opens
  rw [hs, hk]
  split
  · rfl
  · rename_i hne
    apply hu
    simpa using hne

/-- `SymmetricKey::from_tagged_cbor_data(key.to_cbor_data()) = key` -/
theorem symmetricKeyOfData_enc (ck : Bytes) (hck : ck.length = 32) :
    symmetricKeyOfData (symmetricKeyCbor ck).enc = .ok ck := by
  have hv : (symmetricKeyCbor ck).Valid := by
    simp only [symmetricKeyCbor, Cbor.Valid, TAG_SYMMETRIC_KEY, hck]
    omega
  simp only [symmetricKeyOfData, Cbor.dec?, Cbor.decEncLaw _ hv]
  simp only [symmetricKeyCbor, symmetricKeyOfCbor?, hck, beq_self_eq_true, Bool.and_self, if_true]

theorem symmetricKeyOfData_ne_panic (b : Bytes) (p : String) : symmetricKeyOfData b ≠ .panic p := by
  unfold symmetricKeyOfData
  split
  · nofun
  · split <;> nofun

/-- the sealed messages made for the recipients `krs` (key id, sender's randomness) -/
def sealsFor (S : Sealer) (ck : Bytes) (krs : List (Nat × Nat)) : List Cbor :=
  krs.map fun kr => S.sealTo kr.1 (symmetricKeyCbor ck).enc kr.2

theorem sealsFor_tagged {K : Kem} {S : Sealer} (LK : KemLaws K S) (ck : Bytes) (krs : List (Nat × Nat)) :
    ∀ s ∈ sealsFor S ck krs, ∃ x, s = .tagged TAG_SEALED_MESSAGE x := by
  intro s hs
  simp only [sealsFor, List.mem_map] at hs
  obtain ⟨kr, _, rfl⟩ := hs
  exact LK.tagged _ _ _

section
variable (h : Hash) (A : Aead)

theorem decryptSubjectToRecipient_eq (K : Kem) (key : Nat) (e : Env) :
    decryptSubjectToRecipient h A K key e =
      (recipients h e).bind fun R => (firstPlaintext K key R).bind fun pt =>
        (symmetricKeyOfData pt).bind fun ck => decryptSubject h A ck e := by
  unfold decryptSubjectToRecipient
  cases recipients h e with
  | ok R =>
    dsimp only [Res.bind]
    cases firstPlaintext K key R with
    | ok pt => dsimp only; cases symmetricKeyOfData pt <;> rfl
    | _ => rfl
  | _ => rfl

theorem decryptSubjectToRecipient_ok {K : Kem} {key : Nat} {e x : Env}
    (hx : decryptSubjectToRecipient h A K key e = .ok x) :
    ∃ R pt ck, recipients h e = .ok R ∧ firstPlaintext K key R = .ok pt ∧
      symmetricKeyOfData pt = .ok ck ∧ decryptSubject h A ck e = .ok x := by
  simpa only [decryptSubjectToRecipient_eq, Res.bind_eq_ok, exists_and_left, ← exists_and_right,
    and_assoc] using hx

theorem decryptSubjectToRecipient_congr {K K' : Kem} {key : Nat} (e : Env)
    (ho : opens K' key = opens K key) :
    decryptSubjectToRecipient h A K' key e = decryptSubjectToRecipient h A K key e := by
  simp only [decryptSubjectToRecipient_eq, firstPlaintext_eq, ho]

theorem decryptSubjectToRecipient_ne_panic {K : Kem} {key : Nat} {e : Env} (hc : Canon e)
    (p : String) :
    decryptSubjectToRecipient h A K key e ≠ .panic p := by
  rw [decryptSubjectToRecipient_eq]
  exact Res.bind_ne_panic (recipients_ne_panic h e) (fun R _ => Res.bind_ne_panic (firstPlaintext_ne_panic K key R)
    fun pt _ => Res.bind_ne_panic (symmetricKeyOfData_ne_panic pt) fun ck _ => Obs.decryptSubject_ne_panic h A hc) p

theorem decryptToRecipient_ne_panic {K : Kem} {key : Nat} {e : Env} (hc : Canon e)
    (p : String) :
    decryptToRecipient h A K key e ≠ .panic p :=
  Res.bind_ne_panic (decryptSubjectToRecipient_ne_panic h A hc) (fun x _ => unwrap_ne_panic x) p

theorem addRecipient_isOk (e : Env) (s : Cbor) : ∃ r, addRecipient h e s = .ok r := by
  rw [addRecipient_eq]
  exact AW.add_isOk h _ rfl

theorem recipients_wrap (e : Env) : recipients h (wrap h e) = .ok [] := rfl

/-- `recipients()` after `add_recipient`: the old list (when the assertion was already there
or shadowed), or the old list with the new sealed message put in somewhere -/
theorem addRecipient_shape {e r : Env} {s : Cbor} {l : List Cbor} (hi : Inv h e)
    (hs : ∃ x, s = .tagged TAG_SEALED_MESSAGE x) (hr : addRecipient h e s = .ok r)
    (hl : recipients h e = .ok l) :
    recipients h r = .ok l ∨ ∃ l1 l2, l = l1 ++ l2 ∧ recipients h r = .ok (l1 ++ s :: l2) := by
  rw [addRecipient_eq] at hr
  obtain ⟨_, _, has⟩ := AW.add_ok hr
  unfold recipients at hl ⊢
  rw [AW.awp_eq_filter] at hl ⊢
  rcases AW.normAdd_split (hasRecipientAssertion h s) hi.2.asc with heq | ⟨l1, l2, h12, heq⟩
  · exact Or.inl (by rw [has, heq]; exact hl)
  · rw [h12, List.filter_append] at hl
    obtain ⟨hg, rfl⟩ := (recipientsLoop_ok_iff _ _).1 hl
    refine Or.inr ⟨_, _, List.filterMap_append, ?_⟩
    rw [has, heq, List.filter_append, List.filter_cons, matches_recA h s, if_pos rfl, recipientsLoop_ok_iff]
    refine ⟨?_, by rw [List.filterMap_append, List.filterMap_cons, sealedOf_recA h hs]⟩
    rw [List.forall_mem_append] at hg ⊢
    exact ⟨hg.1, List.forall_mem_cons.2 ⟨goodRec_recA h hs, hg.2⟩⟩

theorem addRecipient_of_inv {e : Env} (hi : Inv h e) (s : Cbor) :
    addRecipient h e s =
      .ok (AW.rebuild h e.subject (AW.normAdd e.assertions (hasRecipientAssertion h s))) :=
  (addRecipient_eq h e s).trans (AW.add_of_inv hi rfl)

theorem addRecipient_keeps {K : Kem} {key : Nat} {e r x : Env} {s : Cbor} (hi : Inv h e)
    (hs : ∃ x, s = .tagged TAG_SEALED_MESSAGE x) (hr : addRecipient h e s = .ok r)
    (hno : opens K key s = none) (hx : decryptSubjectToRecipient h A K key e = .ok x) :
    ∃ x', decryptSubjectToRecipient h A K key r = .ok x' ∧ x'.digest = r.digest ∧
      x'.assertions = r.assertions := by
  obtain ⟨R, pt, ck, hR, hp, hk, hd⟩ := decryptSubjectToRecipient_ok h A hx
  obtain ⟨R', hR', hp'⟩ : ∃ R', recipients h r = .ok R' ∧ firstPlaintext K key R' = .ok pt := by
    rcases addRecipient_shape h hi hs hr hR with hR' | ⟨l1, l2, rfl, hR'⟩
    · exact ⟨R, hR', hp⟩
    · exact ⟨_, hR', (firstPlaintext_skip hno _ _).trans hp⟩
  rw [addRecipient_of_inv h hi] at hr
  cases hr
  simp only [decryptSubjectToRecipient_eq, hR', hp', hk, Res.ok_bind]
  obtain ⟨x', hx', hd', ha'⟩ := Obs.decryptSubject_other_assertions h A hi hd
    (AW.normAdd_asc hi.2.asc) (AW.normAdd_ne_nil e.assertions (hasRecipientAssertion h s))
  exact ⟨x', hx', hd', ha'.trans (AW.rebuild_assertions h (Or.inr (AW.normAdd_ne_nil _ _))).symm⟩

theorem addRecipient_recipients {e r : Env} {s : Cbor} {l : List Cbor} (hi : Inv h e)
    (hs : ∃ x, s = .tagged TAG_SEALED_MESSAGE x) (hr : addRecipient h e s = .ok r)
    (hl : recipients h e = .ok l) :
    ∃ l', recipients h r = .ok l' ∧ (∀ x ∈ l, x ∈ l') ∧ (∀ x ∈ l', x ∈ l ∨ x = s) ∧
      (NoShadow e [hasRecipientAssertion h s] → s ∈ l') := by
  rcases addRecipient_shape h hi hs hr hl with hl' | ⟨l1, l2, rfl, hl'⟩
  · refine ⟨l, hl', fun _ hx => hx, fun _ hx => Or.inl hx, fun hns => ?_⟩
    -- the assertion is stored (not shadowed), so it was there before
    rw [addRecipient_eq] at hr
    obtain ⟨_, _, has⟩ := AW.add_ok hr
    have hin : hasRecipientAssertion h s ∈ r.assertions :=
      has ▸ AW.mem_normAdd_self (fun y hy hd => hns _ (by simp) y (Or.inl hy) hd)
    rw [(recipients_ok_iff h r l).1 hl' |>.2]
    exact List.mem_filterMap.2 ⟨_, AW.mem_awp.2 ⟨hin, _, _, _, rfl, rfl⟩, sealedOf_recA h hs⟩
  · exact ⟨_, hl', fun x hx => List.perm_middle.mem_iff.2 (List.mem_cons_of_mem _ hx),
      fun x hx => (List.mem_cons.1 (List.perm_middle.mem_iff.1 hx)).symm, fun _ => by simp⟩

end

theorem noShadow_of_pairwise {e : Env} {l : List Env}
    (hp : (e.assertions ++ l).Pairwise (fun a b => a.digest ≠ b.digest)) : NoShadow e l :=
  fun a ha y hy hd =>
    AW.DigInj.of_pairwise hp y (List.mem_append.2 hy) a (List.mem_append_right _ ha) hd

namespace Ex
open ToyDeps ToyRec

abbrev H : Hash := ToyRec.hash

/-- `"b"` -/
def subj : Env := newLeaf H (.text [0x62])
/-- `1: 10` -/
def a1 : Env := newAssertion H (newKnownValue H 1) (newLeaf H (.uint 10))
/-- `"b" [ 1: 10 ]` -/
def nd : Env := .node subj [a1] (H.ofDigests [subj.digest, a1.digest])
def ck : Bytes := List.replicate 32 7

theorem subj_inv : Inv H subj := Inv.newLeaf _ _

theorem nd_inv : Inv H nd :=
  AW.inv_single subj_inv (Inv.newAssertion (Inv.newKnownValue H 1) (Inv.newLeaf H _)) rfl

theorem subj_rt : RoundTrips H subj := by rfl
theorem wrap_subj_rt : RoundTrips H (wrap H subj) := by rfl
theorem nd_recipients : recipients H nd = .ok [] := by rfl
theorem ck_len : ck.length = 32 := by rfl

def krs : List (Nat × Nat) := [(1, 0), (2, 0)]

theorem nd_noShadow : NoShadow nd (recAs H (sealsFor sealer ck krs)) := by
  apply noShadow_of_pairwise
  decide +kernel

theorem nd_encrypted : encryptSubjectToRecipients H toyAead ck [1] (sealsFor sealer ck krs) nd =
    .ok (built H toyAead ck [1] (sealsFor sealer ck krs) nd) := by
  rw [encryptSubjectToRecipients_eq H toyAead ck [1] _ nd_inv hash_valid]
  rfl

end Ex

end RecL
end EnvVerif
