/-
  Lemmas/ExtSamples.lean — what the examples of C17 and C19 need of the sample envelopes of
  InvLemmas under `InvL.toyHash`.  Each of the two conjunctions is one kernel evaluation, so
  that every digest is computed once.
-/
import EnvVerif.Lemmas.ExtLemmas
import EnvVerif.Lemmas.InvLemmas
namespace EnvVerif
namespace ExtL
open Env AW InvL

/-- for `c19_addType_elided_witness`: a node whose only assertion is the elided `'isA': sSubj` -/
def elidedIsAEnv : Env :=
  .node InvL.sSubj [.elided (isAAssertion InvL.toyHash InvL.sSubj).digest]
    (InvL.toyHash.ofDigests [InvL.sSubj.digest, (isAAssertion InvL.toyHash InvL.sSubj).digest])

theorem elidedIsAEnv_inv : Inv InvL.toyHash elidedIsAEnv :=
  rebuild_inv sSubj_inv (as := [.elided _])
    (List.forall_mem_singleton.2 (Inv.newElided _ (toyHash_valid _))) (List.pairwise_singleton _ _)
    (List.forall_mem_singleton.2 rfl)

/-- `toyHash` separates the two sample salts at every level - leaf, salt assertion, salted
assertion, the nodes that received them - and the first from the assertions of `sNode` -/
theorem sample_salts :
    ((newLeaf toyHash (saltCbor [1,2,3,4,5,6,7,8])).digest ≠
        (newLeaf toyHash (saltCbor [1,2,3,4,5,6,7,9])).digest ∧
      (saltAssertion toyHash [1,2,3,4,5,6,7,8]).digest ≠ (saltAssertion toyHash [1,2,3,4,5,6,7,9]).digest ∧
      (saltedAssertion toyHash (newKnownValue toyHash 7) (newLeaf toyHash (.uint 5)) [1,2,3,4,5,6,7,8]).digest ≠
        (saltedAssertion toyHash (newKnownValue toyHash 7) (newLeaf toyHash (.uint 5)) [1,2,3,4,5,6,7,9]).digest) ∧
    ((nodeOf toyHash sSubj [saltAssertion toyHash [1,2,3,4,5,6,7,8]]).digest ≠
        (nodeOf toyHash sSubj [saltAssertion toyHash [1,2,3,4,5,6,7,9]]).digest ∧
      (nodeOf toyHash sSubj [saltedAssertion toyHash (newKnownValue toyHash 7) (newLeaf toyHash (.uint 5))
          [1,2,3,4,5,6,7,8]]).digest ≠
        (nodeOf toyHash sSubj [saltedAssertion toyHash (newKnownValue toyHash 7) (newLeaf toyHash (.uint 5))
          [1,2,3,4,5,6,7,9]]).digest) ∧
    (∀ x ∈ sNode.assertions, x.digest ≠ (saltAssertion toyHash [1,2,3,4,5,6,7,8]).digest ∧
      x.digest ≠ (saltedAssertion toyHash (newKnownValue toyHash 7) (newLeaf toyHash (.uint 5))
        [1,2,3,4,5,6,7,8]).digest) ∧
    assertionsWithPredicate sNode (newKnownValue toyHash 7) = [] := by
  decide +kernel

/-- (1) vendor and conformsTo of the second sample attachment are apart, in this order;
(2) `sNode` has no attachment, and its assertions and the two sample attachments differ pairwise
in digest; (3) a 'note' assertion is new to the object of the first attachment, sorts before its
vendor assertion, and changes the attachment's digest; (4) the sample 'isA' assertions -/
theorem sample_atts :
    ((newKnownValue toyHash KV_VENDOR).digest ≠ (newKnownValue toyHash KV_CONFORMS_TO).digest ∧
      (vendorAssertion toyHash [0x62]).digest ≠ (conformsToAssertion toyHash [0x63]).digest ∧
      (vendorAssertion toyHash [0x62]).digest.val ≤ (conformsToAssertion toyHash [0x63]).digest.val) ∧
    (assertionsWithPredicate sNode (newKnownValue toyHash KV_ATTACHMENT) = [] ∧
      [sA2.digest, sA1.digest, (attachmentOf toyHash sSubj [0x61] none).digest,
        (newAssertion toyHash (newKnownValue toyHash KV_ATTACHMENT) (nodeOf toyHash (wrap toyHash sA1)
          [vendorAssertion toyHash [0x62], conformsToAssertion toyHash [0x63]])).digest].Pairwise
        (· ≠ ·)) ∧
    ((newKnownValue toyHash KV_NOTE).digest ≠ (newKnownValue toyHash KV_VENDOR).digest ∧
      (newKnownValue toyHash KV_NOTE).digest ≠ (newKnownValue toyHash KV_CONFORMS_TO).digest ∧
      (vendorAssertion toyHash [0x61]).digest ≠
        (newAssertion toyHash (newKnownValue toyHash KV_NOTE) (newLeaf toyHash (.uint 1))).digest ∧
      ¬ (vendorAssertion toyHash [0x61]).digest.val ≤
        (newAssertion toyHash (newKnownValue toyHash KV_NOTE) (newLeaf toyHash (.uint 1))).digest.val ∧
      (attachmentOf toyHash sSubj [0x61] none).digest ≠
        (newAssertion toyHash (newKnownValue toyHash KV_ATTACHMENT) (nodeOf toyHash (wrap toyHash sSubj)
          [newAssertion toyHash (newKnownValue toyHash KV_NOTE) (newLeaf toyHash (.uint 1)),
            vendorAssertion toyHash [0x61]])).digest) ∧
    (∀ x ∈ sNode.assertions, x.digest ≠ (isAAssertion toyHash sSubj).digest) ∧
    (isAAssertion toyHash sSubj).digest ≠ (isAAssertion toyHash sA3).digest := by
  decide +kernel

/-- the second sample attachment with its object's assertions in stored order (the kernel
does not evaluate `mergeSort`) -/
theorem sample_att2 : attOfT toyHash (sA1, [0x62], some [0x63]) =
    newAssertion toyHash (newKnownValue toyHash KV_ATTACHMENT) (nodeOf toyHash (wrap toyHash sA1)
      [vendorAssertion toyHash [0x62], conformsToAssertion toyHash [0x63]]) := by
  simp only [attOfT, attachmentOf, attachmentObject,
    attachmentObjAssertions_some _ _ _ sample_atts.1.2.1, if_pos sample_atts.1.2.2]

end ExtL
end EnvVerif
