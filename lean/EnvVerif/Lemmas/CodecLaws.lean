/-
  Lemmas/CodecLaws.lean — the byte-level dCBOR codec (`dcbor` crate as modelled in
  Model/Cbor.lean).  The specification: `Cbor.Valid`, `Cbor.Plain`, and the two codec laws as a
  hypothesis structure (`CodecLaws`, in `Prop`; NOT an axiom) with its halves `DecEncLaw` /
  `EncDecAt b`.  The proofs: heads (`decHead_ok_iff`), one equation of `decItem` per major type, and
  the first law for the model codec (`Cbor.decEncLaw`).  The second law fails: see at `CodecLaws`.
-/
import EnvVerif.Lemmas.Bytes
namespace EnvVerif

namespace Cbor

/-- the encoded keys of a map, in the order stored -/
def keysEnc (kvs : List (Cbor × Cbor)) : List Bytes := kvs.map (fun kv => kv.1.enc)

/-- strictly ascending in the byte-lexicographic order (hence no duplicate key) -/
def KeysAsc (ks : List Bytes) : Prop := ks.Pairwise (fun a b => bytesLt a b = true)

mutual
/-- the CBOR trees that are values of the dCBOR data model.  A float is valid when, by definition,
the decoder reads its encoding back as that very float: so the first law is assumed of floats, not
proved.  This excludes the floats `dcbor` reduces to an integer, every NaN but the canonical one,
and the floats the model of `decFloat` does not follow (`unmodelledFloat`, e.g. -2^100). -/
def Valid : Cbor → Prop
  | .uint n => n < 2 ^ 64
  | .nint n => n < 2 ^ 64
  | .bytes b => b.length < 2 ^ 64
  | .text b => b.length < 2 ^ 64 ∧ utf8Valid b = true
  | .array xs => xs.length < 2 ^ 64 ∧ ValidList xs
  | .map kvs => kvs.length < 2 ^ 64 ∧ ValidPairs kvs ∧ KeysAsc (keysEnc kvs)
  | .tagged t x => t < 2 ^ 64 ∧ Valid x
  | .simple v => v = 20 ∨ v = 21 ∨ v = 22
  | .float bits => Cbor.dec (encFloat bits) = .ok (.float bits)
def ValidList : List Cbor → Prop
  | [] => True
  | x :: xs => Valid x ∧ ValidList xs
def ValidPairs : List (Cbor × Cbor) → Prop
  | [] => True
  | (k, v) :: kvs => Valid k ∧ Valid v ∧ ValidPairs kvs
end

mutual
/-- no float anywhere and no integer in the ranges `dcbor` 0.17.1 also accepts in
float form (`uint` above 2^31, `nint` from 2^63) -/
def Plain : Cbor → Prop
  | .uint n => n ≤ 2 ^ 31
  | .nint n => n < 2 ^ 63
  | .bytes _ => True
  | .text _ => True
  | .array xs => PlainList xs
  | .map kvs => PlainPairs kvs
  | .tagged _ x => Plain x
  | .simple _ => True
  | .float _ => False
def PlainList : List Cbor → Prop
  | [] => True
  | x :: xs => Plain x ∧ PlainList xs
def PlainPairs : List (Cbor × Cbor) → Prop
  | [] => True
  | (k, v) :: kvs => Plain k ∧ Plain v ∧ PlainPairs kvs
end

theorem validList_iff (xs : List Cbor) : ValidList xs ↔ ∀ x ∈ xs, x.Valid := by
  induction xs with
  | nil => simp [ValidList]
  | cons x xs ih => simp [ValidList, ih]

theorem validPairs_iff (kvs : List (Cbor × Cbor)) :
    ValidPairs kvs ↔ ∀ p ∈ kvs, p.1.Valid ∧ p.2.Valid := by
  induction kvs with
  | nil => simp [ValidPairs]
  | cons p kvs ih => simp [ValidPairs, ih, and_assoc]

end Cbor

/-- the two laws of the dCBOR codec: a valid tree decodes from its encoding, and whatever
decodes is valid and re-encodes to the bytes it was read from (so the encoding of a tree
is unique and the decoder accepts nothing else).

WARNING: the second law is *false* for the model codec, which mirrors `dcbor` 0.17.1:
`fa 4f 00 00 01` (the f32 2147483904.0) is accepted and read as the integer 2147483904, whose
encoding is `1a 80 00 01 00` (`not_codecLaws` in Props/C06.lean; confirmed on the Rust crate).  So
no property theorem takes `CodecLaws`.  Its first half, `DecEncLaw`, is proved for the model codec
(`Cbor.decEncLaw`), so C05 takes no codec hypothesis; of the second C06 takes the pointwise
`EncDecAt b`, which is proved for `Plain` trees in Lemmas/CodecPlain.lean. -/
structure CodecLaws : Prop where
  dec_enc : ∀ c, Cbor.Valid c → Cbor.dec c.enc = .ok c
  enc_dec : ∀ b c, Cbor.dec b = .ok c → c.enc = b ∧ Cbor.Valid c

def DecEncLaw : Prop := ∀ c, Cbor.Valid c → Cbor.dec c.enc = .ok c

def EncDecAt (b : Bytes) : Prop := ∀ c, Cbor.dec b = .ok c → c.enc = b ∧ Cbor.Valid c

theorem CodecLaws.decEncLaw (L : CodecLaws) : DecEncLaw := L.dec_enc
theorem CodecLaws.encDecAt (L : CodecLaws) (b : Bytes) : EncDecAt b := L.enc_dec b
theorem CodecLaws.of_halves (h1 : DecEncLaw) (h2 : ∀ b, EncDecAt b) : CodecLaws := ⟨h1, h2⟩

theorem Except.ok_of_ite_error {ε α : Type} {c : Prop} [Decidable c] {e : ε} {x : Except ε α} {a : α}
    (h : (if c then .error e else x) = .ok a) : ¬ c ∧ x = .ok a := by
  split at h
  · cases h
  · exact ⟨‹_›, h⟩

namespace Cbor

/-- number of argument bytes that follow a head byte with additional information `ai` -/
def argLen (ai : Nat) : Nat := if ai < 24 then 0 else 2 ^ (ai - 24)

/-- least argument whose shortest head carries additional information `ai`; so the arguments
written with `ai` in shortest form are those from `argMin ai` up to `argMin (ai + 1)` -/
def argMin (ai : Nat) : Nat := if ai ≤ 24 then ai else 256 ^ 2 ^ (ai - 25)

/-- the additional-information value of the shortest head for argument `n` -/
def aiOf (n : Nat) : Nat :=
  if n < 24 then n else if n < 256 then 24 else if n < 65536 then 25 else if n < 4294967296 then 26 else 27

theorem argLen_of_lt {ai : Nat} (h : ai < 24) : argLen ai = 0 := if_pos h

theorem argMin_of_le {ai : Nat} (h : ai ≤ 24) : argMin ai = ai := if_pos h

theorem argMin_succ {ai : Nat} (h : 24 ≤ ai) : argMin (ai + 1) = 256 ^ argLen ai := by
  rw [argMin, argLen, if_neg (by omega), if_neg (by omega), show ai + 1 - 25 = ai - 24 by omega]

theorem argMin_le {ai : Nat} (h : ai ≤ 28) : argMin ai ≤ 2 ^ 64 := by
  unfold argMin
  split
  · omega
  · exact Nat.le_trans (Nat.pow_le_pow_right (by omega)
      (Nat.pow_le_pow_right (by omega) (by omega : ai - 25 ≤ 3))) (by decide)

theorem aiOf_spec {n : Nat} (hn : n < 2 ^ 64) :
    aiOf n < 28 ∧ argMin (aiOf n) ≤ n ∧ n < argMin (aiOf n + 1) := by
  unfold aiOf
  by_cases h1 : n < 24
  · rw [if_pos h1, argMin_of_le (Nat.le_of_lt h1), argMin_of_le (Nat.succ_le_of_lt h1)]; omega
  rw [if_neg h1]
  by_cases h2 : n < 256
  · rw [if_pos h2]; exact ⟨by decide, Nat.le_of_not_lt h1, h2⟩
  rw [if_neg h2]
  by_cases h3 : n < 65536
  · rw [if_pos h3]; exact ⟨by decide, Nat.le_of_not_lt h2, h3⟩
  rw [if_neg h3]
  by_cases h4 : n < 4294967296
  · rw [if_pos h4]; exact ⟨by decide, Nat.le_of_not_lt h3, h4⟩
  · rw [if_neg h4]; exact ⟨by decide, Nat.le_of_not_lt h4, hn⟩

/-- the shortest head of an argument in the range of `ai` -/
theorem head_of_range (mt : Nat) {ai v : Nat} (h28 : ai < 28) (h1 : argMin ai ≤ v)
    (h2 : v < argMin (ai + 1)) :
    head mt v = (UInt8.ofNat (mt * 32) + UInt8.ofNat ai) :: beBytes (argLen ai) v := by
  unfold head
  rcases (by omega : ai < 24 ∨ ai = 24 ∨ ai = 25 ∨ ai = 26 ∨ ai = 27) with h | rfl | rfl | rfl | rfl
  · rw [argMin_of_le (by omega)] at h1 h2
    have : v = ai := by omega
    subst this
    rw [if_pos h, argLen_of_lt h]; rfl
  · have h1 : 24 ≤ v := h1
    have h2 : v < 256 := h2
    rw [if_neg (by omega), if_pos h2]
    show _ = [_, UInt8.ofNat (v % 256)]
    rw [Nat.mod_eq_of_lt h2]; rfl
  · have h1 : 256 ≤ v := h1
    have h2 : v < 65536 := h2
    rw [if_neg (by omega), if_neg (by omega), if_pos h2]; rfl
  · have h1 : 65536 ≤ v := h1
    have h2 : v < 4294967296 := h2
    rw [if_neg (by omega), if_neg (by omega), if_neg (by omega), if_pos h2]; rfl
  · have h1 : 4294967296 ≤ v := h1
    rw [if_neg (by omega), if_neg (by omega), if_neg (by omega), if_neg (by omega)]; rfl

/-- `decHead` in one shape for every additional information.  `mt` and `ai` are variables tied to
the head byte by equations (every caller gives `rfl rfl`), so that the proof can split on
`ai = 24`, `25`, .. and substitute the numeral for it. -/
theorem decHead_cons {h : UInt8} {mt ai : Nat} (hm : h.toNat / 32 = mt) (ha : h.toNat % 32 = ai)
    (tl : Bytes) :
    decHead (h :: tl) =
      if ai < 24 then .ok (mt, ai, ai, tl)
      else if 27 < ai then .error .badHeader
      else if tl.length < argLen ai then .error .underrun
      else if ¬ (argMin ai ≤ beNat (tl.take (argLen ai)) ∨ mt = 7 ∧ 24 < ai) then .error .nonCanonical
      else .ok (mt, ai, beNat (tl.take (argLen ai)), tl.drop (argLen ai)) := by
  simp only [decHead, hm, ha]
  by_cases h1 : ai < 24
  · rw [if_pos h1, if_pos h1]
  rw [if_neg h1, if_neg h1]
  by_cases h24 : ai = 24
  · subst h24
    cases tl with
    | nil => simp [argLen]
    | cons b r => simp [argLen, argMin, beNat]
  by_cases h25 : ai = 25
  · subst h25; simp [argLen, argMin]
  by_cases h26 : ai = 26
  · subst h26; simp [argLen, argMin]
  by_cases h27 : ai = 27
  · subst h27; simp [argLen, argMin]
  · rw [if_pos (show 27 < ai by omega)]
    simp [h24, h25, h26, h27]

/-- what `decHead` accepts; the last conjunct: the argument is in shortest form, unless the head is that
of a float -/
theorem decHead_ok_iff {data : Bytes} {mt ai v : Nat} {r : Bytes} :
    decHead data = .ok (mt, ai, v, r) ↔
      ∃ b : UInt8, data = b :: (beBytes (argLen ai) v ++ r) ∧ b.toNat / 32 = mt ∧ b.toNat % 32 = ai ∧
        ai < 28 ∧ v < argMin (ai + 1) ∧ (argMin ai ≤ v ∨ mt = 7 ∧ 24 < ai) := by
  constructor
  · intro h
    cases data with
    | nil => cases h
    | cons b tl =>
      rw [decHead_cons rfl rfl] at h
      refine ⟨b, ?_⟩
      by_cases h1 : b.toNat % 32 < 24
      · -- the argument is the additional information itself
        rw [if_pos h1] at h
        cases h
        rw [argLen_of_lt h1, argMin_of_le (Nat.le_of_lt h1), argMin_of_le (Nat.succ_le_of_lt h1)]
        exact ⟨rfl, rfl, rfl, Nat.lt_trans h1 (by decide), Nat.lt_succ_self _, .inl (Nat.le_refl _)⟩
      · -- the argument is read from the next `argLen ai` bytes, which are then its big-endian form
        rw [if_neg h1] at h
        obtain ⟨h27, h⟩ := Except.ok_of_ite_error h
        obtain ⟨hlen, h⟩ := Except.ok_of_ite_error h
        obtain ⟨hcan, h⟩ := Except.ok_of_ite_error h
        cases h
        have hl : (tl.take (argLen (b.toNat % 32))).length = argLen (b.toNat % 32) :=
          List.length_take_of_le (Nat.le_of_not_lt hlen)
        have hlt := beNat_lt (tl.take (argLen (b.toNat % 32)))
        rw [hl] at hlt
        rw [beBytes_beNat _ _ hl, List.take_append_drop, argMin_succ (Nat.le_of_not_lt h1)]
        exact ⟨rfl, rfl, rfl, Nat.lt_succ_of_le (Nat.le_of_not_lt h27), hlt, Decidable.not_not.mp hcan⟩
  · rintro ⟨b, rfl, rfl, rfl, h28, hlt, hcan⟩
    rw [decHead_cons rfl rfl]
    by_cases h1 : b.toNat % 32 < 24
    · rw [if_pos h1]
      rw [argMin_of_le (Nat.succ_le_of_lt h1)] at hlt
      rw [argMin_of_le (Nat.le_of_lt h1)] at hcan
      have : v = b.toNat % 32 := by omega
      subst this
      rw [argLen_of_lt h1]
      rfl
    · rw [argMin_succ (Nat.le_of_not_lt h1)] at hlt
      rw [if_neg h1, if_neg (Nat.not_lt.mpr (Nat.le_of_lt_succ h28)),
        if_neg (by simp [beBytes_length]),
        List.take_left' (beBytes_length _ _), List.drop_left' (beBytes_length _ _),
        beNat_beBytes, Nat.mod_eq_of_lt hlt, if_neg (Decidable.not_not.mpr hcan)]

theorem headByte_div_mod {mt a : Nat} (hmt : mt < 8) (ha : a < 32) :
    (UInt8.ofNat (mt * 32) + UInt8.ofNat a).toNat / 32 = mt ∧
      (UInt8.ofNat (mt * 32) + UInt8.ofNat a).toNat % 32 = a := by
  have e : (UInt8.ofNat (mt * 32) + UInt8.ofNat a).toNat = mt * 32 + a := by
    simp only [UInt8.toNat_add, UInt8.toNat_ofNat']
    omega
  rw [e]
  omega

theorem headByte_eq (h : UInt8) : UInt8.ofNat (h.toNat / 32 * 32) + UInt8.ofNat (h.toNat % 32) = h := by
  apply UInt8.toNat_inj.mp
  have := UInt8.toNat_lt h
  simp only [UInt8.toNat_add, UInt8.toNat_ofNat']
  omega

theorem decHead_head {mt n : Nat} (rest : Bytes) (hmt : mt < 8) (hn : n < 2 ^ 64) :
    decHead (head mt n ++ rest) = .ok (mt, aiOf n, n, rest) := by
  obtain ⟨h28, h1, h2⟩ := aiOf_spec hn
  obtain ⟨hd, hm⟩ := headByte_div_mod hmt (Nat.lt_trans h28 (by decide))
  exact decHead_ok_iff.mpr ⟨_, by rw [head_of_range mt h28 h1 h2]; rfl, hd, hm, h28, h2, .inl h1⟩

theorem decHead_append {data : Bytes} {mt ai v : Nat} {r : Bytes}
    (h : decHead data = .ok (mt, ai, v, r)) (rest : Bytes) :
    decHead (data ++ rest) = .ok (mt, ai, v, r ++ rest) := by
  obtain ⟨b, rfl, h'⟩ := decHead_ok_iff.mp h
  exact decHead_ok_iff.mpr ⟨b, by simp, h'⟩

/-- whatever `decHead` accepts, a float head apart, is the shortest head of its argument -/
theorem decHead_inv {data : Bytes} {mt ai v : Nat} {rest : Bytes}
    (h : decHead data = .ok (mt, ai, v, rest)) :
    mt < 8 ∧ ai < 28 ∧ v < 2 ^ 64 ∧ (mt ≠ 7 ∨ ai ≤ 24 → data = head mt v ++ rest) := by
  obtain ⟨b, rfl, rfl, rfl, h28, h2, hc⟩ := decHead_ok_iff.mp h
  have := b.toNat_lt
  refine ⟨by omega, h28, Nat.lt_of_lt_of_le h2 (argMin_le h28), fun h7 => ?_⟩
  have h1 := hc.resolve_right fun ⟨e, l⟩ => h7.elim (· e) (Nat.not_le.mpr l)
  rw [head_of_range _ h28 h1 h2, headByte_eq]
  rfl

theorem head_length_cases (mt n : Nat) :
    (n < 24 ∧ (head mt n).length = 1) ∨ (24 ≤ n ∧ n < 256 ∧ (head mt n).length = 2) ∨
    (256 ≤ n ∧ n < 65536 ∧ (head mt n).length = 3) ∨
    (65536 ≤ n ∧ n < 4294967296 ∧ (head mt n).length = 5) ∨
    (4294967296 ≤ n ∧ (head mt n).length = 9) := by
  unfold head
  by_cases h1 : n < 24
  · rw [if_pos h1]; exact .inl ⟨h1, rfl⟩
  rw [if_neg h1]
  by_cases h2 : n < 256
  · rw [if_pos h2]; exact .inr (.inl ⟨Nat.le_of_not_lt h1, h2, rfl⟩)
  rw [if_neg h2]
  by_cases h3 : n < 65536
  · rw [if_pos h3]
    exact .inr (.inr (.inl ⟨Nat.le_of_not_lt h2, h3, congrArg (· + 1) (beBytes_length 2 n)⟩))
  rw [if_neg h3]
  by_cases h4 : n < 4294967296
  · rw [if_pos h4]
    exact .inr (.inr (.inr (.inl ⟨Nat.le_of_not_lt h3, h4, congrArg (· + 1) (beBytes_length 4 n)⟩)))
  · rw [if_neg h4]
    exact .inr (.inr (.inr (.inr ⟨Nat.le_of_not_lt h4, congrArg (· + 1) (beBytes_length 8 n)⟩)))

theorem head_length_pos (mt n : Nat) : 0 < (head mt n).length := by
  have := head_length_cases mt n
  omega

/-- a longer payload never has a shorter head, so the length of `head ++ payload` determines
the length of the payload -/
theorem head_append_length_inj (mt : Nat) {a b : Nat}
    (h : (head mt a).length + a = (head mt b).length + b) : a = b := by
  have := head_length_cases mt a
  have := head_length_cases mt b
  omega

section
variable {data : Bytes} {ai v : Nat} {rest : Bytes} (f : Nat)

theorem decItem_head0 (h : decHead data = .ok (0, ai, v, rest)) :
    decItem (f + 1) data = .ok (.uint v, rest) := by
  rw [decItem, h]; rfl

theorem decItem_head1 (h : decHead data = .ok (1, ai, v, rest)) :
    decItem (f + 1) data = .ok (.nint v, rest) := by
  rw [decItem, h]; rfl

theorem decItem_head2 (h : decHead data = .ok (2, ai, v, rest)) :
    decItem (f + 1) data =
      if rest.length < v then .error .underrun else .ok (.bytes (rest.take v), rest.drop v) := by
  rw [decItem, h]; rfl

theorem decItem_head3 (h : decHead data = .ok (3, ai, v, rest)) :
    decItem (f + 1) data =
      if rest.length < v then .error .underrun
      else if utf8Valid (rest.take v) then .ok (.text (rest.take v), rest.drop v)
      else .error .badUtf8 := by
  rw [decItem, h]; rfl

theorem decItem_head4 (h : decHead data = .ok (4, ai, v, rest)) :
    decItem (f + 1) data =
      match decItems f v rest with
      | .error e => .error e
      | .ok (xs, r) => .ok (.array xs, r) := by
  rw [decItem, h]; rfl

theorem decItem_head5 (h : decHead data = .ok (5, ai, v, rest)) :
    decItem (f + 1) data =
      match decPairs f v none rest with
      | .error e => .error e
      | .ok (kvs, r) => .ok (.map kvs, r) := by
  rw [decItem, h]; rfl

theorem decItem_head6 (h : decHead data = .ok (6, ai, v, rest)) :
    decItem (f + 1) data =
      match decItem f rest with
      | .error e => .error e
      | .ok (x, r) => .ok (.tagged v x, r) := by
  rw [decItem, h]; rfl

theorem decItem_head7 (h : decHead data = .ok (7, ai, v, rest)) :
    decItem (f + 1) data =
      if ai == 25 || ai == 26 || ai == 27 then
        match decFloat ai v with
        | .error e => .error e
        | .ok c => .ok (c, rest)
      else if v == 20 || v == 21 || v == 22 then .ok (.simple v, rest)
      else .error .badSimple := by
  rw [decItem, h]; rfl
end

theorem decItems_zero_n (fuel : Nat) (data : Bytes) : decItems fuel 0 data = .ok ([], data) := by
  cases fuel <;> rfl

theorem decPairs_zero_n (fuel : Nat) (prev : Option Bytes) (data : Bytes) :
    decPairs fuel 0 prev data = .ok ([], data) := by
  cases fuel <;> rfl

theorem dec_eq_ok {data : Bytes} {c : Cbor} :
    dec data = .ok c ↔ decItem (2 * data.length + 2) data = .ok (c, []) := by
  unfold dec
  split
  · simp [*]
  · next c' rest h =>
    rw [h]
    cases rest <;> simp

theorem decItem_uint (f n : Nat) (rest : Bytes) (hn : n < 2 ^ 64) :
    decItem (f + 1) (head 0 n ++ rest) = .ok (.uint n, rest) :=
  decItem_head0 f (decHead_head rest (by decide) hn)

theorem enc_length_pos : (c : Cbor) → c.Valid → 0 < c.enc.length
  | .uint n, _ | .nint n, _ | .simple n, _ => by rw [enc]; exact head_length_pos _ _
  | .bytes _, _ | .text _, _ | .array _, _ | .map _, _ | .tagged _ _, _ => by
    rw [enc, List.length_append]; exact Nat.add_pos_left (head_length_pos _ _) _
  | .float bits, hv => by
    -- the only use of validity: what `dec` accepts is not empty
    rw [Valid, dec_eq_ok] at hv
    rw [enc]
    cases he : encFloat bits with
    | nil => rw [he] at hv; cases hv
    | cons _ _ => exact Nat.succ_pos _

/-- how the validity of a float (a statement about `dec`) is used inside a larger tree -/
theorem decItem_float_append {f : Nat} {data : Bytes} {bits : Nat} {r : Bytes}
    (h : decItem f data = .ok (.float bits, r)) (f' : Nat) (rest : Bytes) :
    decItem (f' + 1) (data ++ rest) = .ok (.float bits, r ++ rest) := by
  revert h
  -- of the branches of `decItem` only that of a float head can return a float, and the conditions
  -- under which it is taken mention neither the fuel nor what follows the item
  fun_cases decItem f data <;> intro h <;> cases h
  rw [decItem, decHead_append ‹_› rest]
  simp only [*]
  rfl

/-- the fuel of the first law: the decoder is given twice the length of what it is to read, so
after an item of `a > 0` bytes there is enough left for the `b` bytes that follow -/
theorem fuel_split {a b fuel : Nat} (ha : 0 < a) (h : 2 * (a + b) ≤ fuel + 1) :
    ∃ f, fuel = f + 1 ∧ 2 * b ≤ f :=
  ⟨fuel - 1, by omega⟩

theorem two_mul_le_of_add {a b n : Nat} (h : 2 * (a + b) ≤ n) : 2 * a ≤ n ∧ 2 * b ≤ n :=
  ⟨Nat.le_trans (Nat.mul_le_mul_left 2 (Nat.le_add_right a b)) h,
    Nat.le_trans (Nat.mul_le_mul_left 2 (Nat.le_add_left b a)) h⟩

mutual
theorem decItem_enc (c : Cbor) (hv : c.Valid) (fuel : Nat) (rest : Bytes)
    (hf : 2 * c.enc.length ≤ fuel + 1) : decItem fuel (c.enc ++ rest) = .ok (c, rest) := by
  obtain ⟨f, rfl, -⟩ := fuel_split (b := 0) (enc_length_pos _ hv) hf
  cases c with
  | uint n => exact decItem_uint f n rest hv
  | nint n => exact decItem_head1 f (decHead_head rest (by decide) hv)
  | bytes b =>
    rw [enc, List.append_assoc, decItem_head2 f (decHead_head _ (by decide) hv)]
    simp
  | text b =>
    rw [enc, List.append_assoc, decItem_head3 f (decHead_head _ (by decide) hv.1)]
    simp [hv.2]
  | array xs =>
    rw [enc, List.length_append] at hf
    obtain ⟨_, ⟨⟩, h2⟩ := fuel_split (head_length_pos 4 xs.length) hf
    rw [enc, List.append_assoc, decItem_head4 f (decHead_head _ (by decide) hv.1),
      decItems_enc xs hv.2 f rest h2]
  | map kvs =>
    rw [enc, List.length_append] at hf
    obtain ⟨_, ⟨⟩, h2⟩ := fuel_split (head_length_pos 5 kvs.length) hf
    rw [enc, List.append_assoc, decItem_head5 f (decHead_head _ (by decide) hv.1),
      decPairs_enc kvs hv.2.1 hv.2.2 f rest none (fun _ hp => nomatch hp) h2]
  | tagged t x =>
    rw [enc, List.length_append] at hf
    obtain ⟨_, ⟨⟩, h2⟩ := fuel_split (head_length_pos 6 t) hf
    rw [enc, List.append_assoc, decItem_head6 f (decHead_head _ (by decide) hv.1),
      decItem_enc x hv.2 f rest (Nat.le_succ_of_le h2)]
  | simple v =>
    rw [Valid] at hv
    rw [enc, decItem_head7 f (decHead_head _ (by decide) (by omega))]
    rcases hv with rfl | rfl | rfl <;> rfl
  | float bits => exact decItem_float_append (dec_eq_ok.mp hv) f rest
theorem decItems_enc : (xs : List Cbor) → ValidList xs → ∀ (fuel : Nat) (rest : Bytes),
    2 * (encList xs).length ≤ fuel → decItems fuel xs.length (encList xs ++ rest) = .ok (xs, rest)
  | [], _, fuel, rest, _ => decItems_zero_n fuel _
  | x :: xs, hv, fuel, rest, hf => by
    rw [encList, List.length_append] at hf
    obtain ⟨f, rfl, h2⟩ := fuel_split (enc_length_pos x hv.1) (Nat.le_succ_of_le hf)
    rw [encList, List.length_cons, List.append_assoc, decItems,
      decItem_enc x hv.1 f _ (two_mul_le_of_add hf).1]
    dsimp only
    rw [decItems_enc xs hv.2 f rest h2]
theorem decPairs_enc : (kvs : List (Cbor × Cbor)) → ValidPairs kvs → KeysAsc (keysEnc kvs) →
    ∀ (fuel : Nat) (rest : Bytes) (prev : Option Bytes),
    (∀ p, prev = some p → ∀ k ∈ keysEnc kvs, bytesLt p k = true) →
    2 * (encPairs kvs).length ≤ fuel →
    decPairs fuel kvs.length prev (encPairs kvs ++ rest) = .ok (kvs, rest)
  | [], _, _, fuel, rest, prev, _, _ => decPairs_zero_n fuel prev _
  | (k, v) :: kvs, hv, hk, fuel, rest, prev, hprev, hf => by
    rw [encPairs, List.append_assoc, List.length_append] at hf
    obtain ⟨f, rfl, h2⟩ := fuel_split (enc_length_pos k hv.1) (Nat.le_succ_of_le hf)
    rw [List.length_append] at h2
    obtain ⟨hk1, hk2⟩ := List.pairwise_cons.1 hk
    rw [encPairs, List.length_cons, List.append_assoc, List.append_assoc, decPairs,
      decItem_enc k hv.1 f _ (two_mul_le_of_add hf).1]
    dsimp only
    rw [decItem_enc v hv.2.1 f _ (Nat.le_succ_of_le (two_mul_le_of_add h2).1)]
    dsimp only
    rw [decPairs_enc kvs hv.2.2 hk2 f rest (some k.enc) (fun p hp => by cases hp; exact hk1)
      (two_mul_le_of_add h2).2]
    cases prev with
    | none => rfl
    | some p => simp [hprev p rfl _ List.mem_cons_self]
end

/-- the first law, for the model codec (`CodecLaws.decEncLaw` is something else: the projection of
the hypothesis structure, which the model codec does not satisfy) -/
theorem decEncLaw : DecEncLaw := fun c hv =>
  dec_eq_ok.mpr (by simpa using decItem_enc c hv (2 * c.enc.length + 2) [] (by omega))

end Cbor

/-- so the second law holds at every encoding of a valid tree -/
theorem encDecAt_enc {c : Cbor} (hv : c.Valid) : EncDecAt c.enc := fun c' hc => by
  cases (Cbor.decEncLaw c hv).symm.trans hc
  exact ⟨rfl, hv⟩

end EnvVerif
