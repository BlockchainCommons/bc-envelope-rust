/-
  Lemmas/Basic.lean — what every other file rests on: the list companions of the mutual
  definitions, induction over `Env`, `WF` / `Canon` unfolded with a node's assertions as `∀ a ∈ as`,
  the digest sort, `mkNode`, the operations and constructors that need no more than that.
-/
import EnvVerif.Lemmas.Bytes
import EnvVerif.Lemmas.Res
import EnvVerif.Lemmas.Lists
import EnvVerif.Model.Inv
namespace EnvVerif
open Env

theorem WFList_iff (h : Hash) (as : List Env) : WFList h as ↔ ∀ a ∈ as, WF h a := by
  induction as with
  | nil => simp [WFList]
  | cons a as ih => simp [WFList, ih]

theorem CanonList_iff (as : List Env) : CanonList as ↔ ∀ a ∈ as, Canon a := by
  induction as with
  | nil => simp [CanonList]
  | cons a as ih => simp [CanonList, ih]

theorem elementsList_eq (as : List Env) : elementsList as = as.flatMap elements := by
  induction as with
  | nil => rfl
  | cons a as ih => simp only [elementsList, ih, List.flatMap_cons]

theorem elementsCountList_eq (as : List Env) :
    elementsCountList as = (as.map elementsCount).sum := by
  induction as with
  | nil => rfl
  | cons a as ih => simp only [elementsCountList, ih, List.map_cons, List.sum_cons]

theorem specDigestList_eq (h : Hash) (as : List Env) :
    specDigestList h as = as.map (specDigest h) := by
  induction as with
  | nil => rfl
  | cons a as ih => simp only [specDigestList, ih, List.map_cons]

theorem cborOfList_eq_map (as : List Env) : cborOfList as = as.map cborOf := by
  induction as with
  | nil => rfl
  | cons a as ih => simp only [cborOfList, ih, List.map_cons]

section
variable {P : Env → Prop}
  (hnode : ∀ s as d, P s → (∀ a ∈ as, P a) → P (.node s as d))
  (hleaf : ∀ c d, P (.leaf c d))
  (hwrapped : ∀ e d, P e → P (.wrapped e d))
  (hassertion : ∀ p o d, P p → P o → P (.assertion p o d))
  (helided : ∀ d, P (.elided d))
  (hknownValue : ∀ v d, P (.knownValue v d))
  (hencrypted : ∀ m d, P (.encrypted m d))
  (hcompressed : ∀ c d, P (.compressed c d))
include hnode hleaf hwrapped hassertion helided hknownValue hencrypted hcompressed

/-- induction over an envelope with the list children handled through membership -/
theorem Env.induct (e : Env) : P e :=
  Env.rec (motive_1 := P) (motive_2 := fun as => ∀ a ∈ as, P a)
    hnode hleaf hwrapped hassertion helided hknownValue hencrypted hcompressed
    (fun _ ha => nomatch ha) (fun _ _ hb hbs => List.forall_mem_cons.2 ⟨hb, hbs⟩) e

theorem Env.inductList : (as : List Env) → ∀ a ∈ as, P a := fun _ a _ =>
  Env.induct hnode hleaf hwrapped hassertion helided hknownValue hencrypted hcompressed a
end

/-- the children of an element, in walk order -/
def Env.children : Env → List Env
  | .node s as _ => s :: as
  | .wrapped e _ => [e]
  | .assertion p o _ => [p, o]
  | _ => []

theorem Env.induct_kids {P : Env → Prop} (H : ∀ e, (∀ c ∈ e.children, P c) → P e) (e : Env) :
    P e := by
  have nil : ∀ c ∈ ([] : List Env), P c := fun _ h => nomatch h
  exact Env.rec (motive_1 := P) (motive_2 := fun as => ∀ a ∈ as, P a)
    (fun _ _ _ hs has => H _ (List.forall_mem_cons.2 ⟨hs, has⟩))
    (fun _ _ => H _ nil)
    (fun _ _ he => H _ (List.forall_mem_cons.2 ⟨he, nil⟩))
    (fun _ _ _ hp ho => H _ (List.forall_mem_cons.2 ⟨hp, List.forall_mem_cons.2 ⟨ho, nil⟩⟩))
    (fun _ => H _ nil) (fun _ _ => H _ nil) (fun _ _ => H _ nil) (fun _ _ => H _ nil)
    nil (fun _ _ hb hbs => List.forall_mem_cons.2 ⟨hb, hbs⟩) e

theorem elements_eq (e : Env) : elements e = e :: e.children.flatMap elements := by
  cases e <;> first | rfl | simp only [elements, Env.children, elementsList_eq, List.flatMap_cons,
    List.flatMap_nil, List.append_nil]

theorem elementsCount_eq (e : Env) :
    elementsCount e = 1 + (e.children.map elementsCount).sum := by
  cases e <;> first | rfl | simp only [elementsCount, Env.children, elementsCountList_eq,
    List.map_cons, List.map_nil, List.sum_cons, List.sum_nil, Nat.add_zero, Nat.add_assoc]

theorem self_mem_elements (e : Env) : e ∈ elements e := by
  rw [elements_eq]; exact List.mem_cons_self

theorem mem_elements_of_hereditary {P : Env → Prop}
    (hP : ∀ e, P e → ∀ c ∈ e.children, P c) {e x : Env} (he : P e) (hx : x ∈ elements e) : P x := by
  induction e using Env.induct_kids with
  | H e ih =>
    rw [elements_eq] at hx
    rcases List.mem_cons.1 hx with rfl | hx
    · exact he
    · obtain ⟨c, hc, hx⟩ := List.mem_flatMap.1 hx
      exact ih c hc (hP e he c hc) hx

section
variable (h : Hash)

@[simp] theorem WF_node (s : Env) (as : List Env) (d : Digest) :
    WF h (.node s as d) ↔
      WF h s ∧ (∀ a ∈ as, WF h a) ∧ d = h.ofDigests (s.digest :: as.map Env.digest) := by
  rw [← WFList_iff]; rfl
@[simp] theorem WF_leaf (c : Cbor) (d : Digest) : WF h (.leaf c d) ↔ d = h.H c.enc := Iff.rfl
@[simp] theorem WF_wrapped (e : Env) (d : Digest) :
    WF h (.wrapped e d) ↔ WF h e ∧ d = h.ofDigests [e.digest] := Iff.rfl
@[simp] theorem WF_assertion (p o : Env) (d : Digest) :
    WF h (.assertion p o d) ↔ WF h p ∧ WF h o ∧ d = h.ofDigests [p.digest, o.digest] := Iff.rfl
@[simp] theorem WF_elided (d : Digest) : WF h (.elided d) := trivial
@[simp] theorem WF_knownValue (v : Nat) (d : Digest) :
    WF h (.knownValue v d) ↔ d = h.H (knownValueCbor v).enc := Iff.rfl
@[simp] theorem WF_encrypted (m : EncMsg) (d : Digest) :
    WF h (.encrypted m d) ↔ m.optDigest = some d := Iff.rfl
@[simp] theorem WF_compressed (c : CompMsg) (d : Digest) : WF h (.compressed c d) := trivial
end

@[simp] theorem Canon_node (s : Env) (as : List Env) (d : Digest) :
    Canon (.node s as d) ↔
      Canon s ∧ (∀ a ∈ as, Canon a) ∧ as ≠ [] ∧ AscDigests as ∧ (∀ a ∈ as, a.slotOk = true) := by
  rw [← CanonList_iff]; rfl
@[simp] theorem Canon_leaf (c : Cbor) (d : Digest) : Canon (.leaf c d) := trivial
@[simp] theorem Canon_wrapped (e : Env) (d : Digest) : Canon (.wrapped e d) ↔ Canon e := Iff.rfl
@[simp] theorem Canon_assertion (p o : Env) (d : Digest) :
    Canon (.assertion p o d) ↔ Canon p ∧ Canon o := Iff.rfl
@[simp] theorem Canon_elided (d : Digest) : Canon (.elided d) ↔ d.Valid := Iff.rfl
@[simp] theorem Canon_knownValue (v : Nat) (d : Digest) : Canon (.knownValue v d) := trivial
@[simp] theorem Canon_encrypted (m : EncMsg) (d : Digest) : Canon (.encrypted m d) ↔ d.Valid :=
  Iff.rfl
@[simp] theorem Canon_compressed (c : CompMsg) (d : Digest) :
    Canon (.compressed c d) ↔ d.Valid := Iff.rfl

@[simp] theorem slotOk_node (s : Env) (as : List Env) (d : Digest) :
    (Env.node s as d).slotOk = s.slotOk := rfl
@[simp] theorem slotOk_assertion (p o : Env) (d : Digest) : (Env.assertion p o d).slotOk = true := rfl
@[simp] theorem slotOk_elided (d : Digest) : (Env.elided d).slotOk = true := rfl
@[simp] theorem slotOk_encrypted (m : EncMsg) (d : Digest) : (Env.encrypted m d).slotOk = true := rfl
@[simp] theorem slotOk_compressed (c : CompMsg) (d : Digest) : (Env.compressed c d).slotOk = true := rfl
@[simp] theorem slotOk_leaf (c : Cbor) (d : Digest) : (Env.leaf c d).slotOk = false := rfl
@[simp] theorem slotOk_knownValue (v : Nat) (d : Digest) : (Env.knownValue v d).slotOk = false := rfl
@[simp] theorem slotOk_wrapped (e : Env) (d : Digest) : (Env.wrapped e d).slotOk = false := rfl
@[simp] theorem newAssertion_slotOk (h : Hash) (p o : Env) : (newAssertion h p o).slotOk = true := rfl

theorem WF.node_digest {h : Hash} {s : Env} {as : List Env} {d : Digest} (hw : WF h (.node s as d)) :
    d = h.ofDigests (s.digest :: as.map Env.digest) :=
  ((WF_node ..).1 hw).2.2

theorem WF.subject {h : Hash} {e : Env} (hw : WF h e) : WF h e.subject := by
  cases e with
  | node s as d => exact ((WF_node ..).1 hw).1
  | _ => exact hw

theorem Canon.subject {e : Env} (hc : Canon e) : Canon e.subject := by
  cases e with
  | node s as d => exact ((Canon_node ..).1 hc).1
  | _ => exact hc

theorem WF.assertions {h : Hash} {e : Env} (hw : WF h e) : ∀ a ∈ e.assertions, WF h a := by
  cases e with
  | node s as d => exact ((WF_node ..).1 hw).2.1
  | _ => exact fun _ hm => absurd hm List.not_mem_nil

theorem Canon.assertions {e : Env} (hc : Canon e) : ∀ a ∈ e.assertions, Canon a := by
  cases e with
  | node s as d => exact ((Canon_node ..).1 hc).2.1
  | _ => exact fun _ hm => absurd hm List.not_mem_nil

theorem Canon.assertions_ne_nil {s : Env} {as : List Env} {d : Digest} (hc : Canon (.node s as d)) :
    as ≠ [] :=
  ((Canon_node ..).1 hc).2.2.1

theorem Canon.asc {e : Env} (hc : Canon e) : AscDigests e.assertions := by
  cases e with
  | node s as d => exact ((Canon_node ..).1 hc).2.2.2.1
  | _ => exact .nil

theorem Canon.slotOk {e : Env} (hc : Canon e) : ∀ a ∈ e.assertions, a.slotOk = true := by
  cases e with
  | node s as d => exact ((Canon_node ..).1 hc).2.2.2.2
  | _ => exact fun _ hm => absurd hm List.not_mem_nil

theorem WF.children {h : Hash} {e : Env} (hw : WF h e) : ∀ c ∈ e.children, WF h c := by
  cases e with
  | node s as d => exact List.forall_mem_cons.2 ⟨hw.subject, hw.assertions⟩
  | wrapped e d => exact List.forall_mem_cons.2 ⟨hw.1, nofun⟩
  | assertion p o d => exact List.forall_mem_cons.2 ⟨hw.1, List.forall_mem_cons.2 ⟨hw.2.1, nofun⟩⟩
  | _ => exact fun _ hm => absurd hm List.not_mem_nil

theorem Canon.children {e : Env} (hc : Canon e) : ∀ c ∈ e.children, Canon c := by
  cases e with
  | node s as d => exact List.forall_mem_cons.2 ⟨hc.subject, hc.assertions⟩
  | wrapped e d => exact List.forall_mem_cons.2 ⟨hc, nofun⟩
  | assertion p o d => exact List.forall_mem_cons.2 ⟨hc.1, List.forall_mem_cons.2 ⟨hc.2, nofun⟩⟩
  | _ => exact fun _ hm => absurd hm List.not_mem_nil

theorem WF.elements {h : Hash} {e x : Env} (hw : WF h e) (hx : x ∈ elements e) : WF h x :=
  mem_elements_of_hereditary (fun _ => WF.children) hw hx

theorem Canon.elements {e x : Env} (hc : Canon e) (hx : x ∈ elements e) : Canon x :=
  mem_elements_of_hereditary (fun _ => Canon.children) hc hx

theorem Inv.subject {h : Hash} {e : Env} (hi : Inv h e) : Inv h e.subject :=
  ⟨hi.1.subject, hi.2.subject⟩

theorem Inv.assertions {h : Hash} {e a : Env} (hi : Inv h e) (ha : a ∈ e.assertions) : Inv h a :=
  ⟨hi.1.assertions a ha, hi.2.assertions a ha⟩

theorem Inv.children {h : Hash} {e c : Env} (hi : Inv h e) (hc : c ∈ e.children) : Inv h c :=
  ⟨hi.1.children c hc, hi.2.children c hc⟩

theorem sortByDigest_perm (as : List Env) : (sortByDigest as).Perm as :=
  List.mergeSort_perm as digestLe

theorem mem_sortByDigest {a : Env} {as : List Env} : a ∈ sortByDigest as ↔ a ∈ as :=
  (sortByDigest_perm as).mem_iff

theorem sortByDigest_length (as : List Env) : (sortByDigest as).length = as.length :=
  (sortByDigest_perm as).length_eq

theorem sortByDigest_eq_nil {as : List Env} : sortByDigest as = [] ↔ as = [] := by
  rw [← List.length_eq_zero_iff, sortByDigest_length, List.length_eq_zero_iff]

theorem digestLe_total (a b : Env) : (digestLe a b || digestLe b a) = true := by
  simp only [digestLe, Bool.or_eq_true, decide_eq_true_eq]; omega

theorem digestLe_trans (a b c : Env) :
    digestLe a b = true → digestLe b c = true → digestLe a c = true := by
  simp only [digestLe, decide_eq_true_eq]; omega

theorem sortByDigest_sorted (as : List Env) :
    (sortByDigest as).Pairwise (fun a b => digestLe a b = true) :=
  List.pairwise_mergeSort (le := digestLe) digestLe_trans digestLe_total as

theorem sortByDigest_of_asc {as : List Env} (hs : AscDigests as) : sortByDigest as = as := by
  refine List.mergeSort_of_pairwise (hs.imp fun {a b} hab => ?_)
  simp only [digestLe, decide_eq_true_eq]; omega

theorem AscDigests.distinct {as : List Env} (hs : AscDigests as) :
    as.Pairwise (fun a b => a.digest ≠ b.digest) := by
  refine hs.imp fun {a b} hab heq => ?_
  rw [heq] at hab; exact Nat.lt_irrefl _ hab

theorem sortByDigest_asc {as : List Env} (hd : as.Pairwise (fun a b => a.digest ≠ b.digest)) :
    AscDigests (sortByDigest as) := by
  refine ((sortByDigest_sorted as).and
    (((sortByDigest_perm as).pairwise_iff fun {a b} hab => ?_).2 hd)).imp fun {a b} ⟨hle, hne⟩ => ?_
  · exact Ne.symm hab
  · simp only [digestLe, decide_eq_true_eq] at hle
    exact Nat.lt_of_le_of_ne hle fun hv => hne (congrArg Digest.mk hv)

theorem AscDigests.of_map_eq {as bs : List Env} (hs : AscDigests as)
    (hm : bs.map Env.digest = as.map Env.digest) : AscDigests bs := by
  have key (l : List Env) :=
    List.pairwise_map (f := Env.digest) (R := fun a b => a.val < b.val) (l := l)
  exact (key bs).1 (hm ▸ (key as).2 hs)

section
variable (h : Hash)

theorem newNodeUnchecked_eq_ok {s : Env} {as : List Env} {r : Env} :
    newNodeUnchecked h s as = .ok r ↔ as ≠ [] ∧ r = mkNode h s as := by
  cases as with
  | nil => simp [newNodeUnchecked]
  | cons a as => simp [newNodeUnchecked, eq_comm]

theorem newNodeUnchecked_eq {s : Env} {as : List Env} (hne : as ≠ []) :
    newNodeUnchecked h s as = .ok (mkNode h s as) :=
  (newNodeUnchecked_eq_ok h).2 ⟨hne, rfl⟩

theorem newNodeUnchecked_ne_err (s : Env) (as : List Env) (x : String) :
    newNodeUnchecked h s as ≠ .err x := by
  unfold newNodeUnchecked; split <;> nofun

theorem newNode_eq_ok {s : Env} {as : List Env} {r : Env} :
    newNode h s as = .ok r ↔ (∀ a ∈ as, a.slotOk = true) ∧ as ≠ [] ∧ r = mkNode h s as := by
  unfold newNode
  split <;> rename_i hall <;> simp only [List.all_eq_true] at hall
  · rw [newNodeUnchecked_eq_ok]; exact (and_iff_right hall).symm
  · exact ⟨nofun, fun hx => absurd hx.1 hall⟩

theorem mkNode_of_asc {s : Env} {as : List Env} (hs : AscDigests as) :
    mkNode h s as = .node s as (h.ofDigests (s.digest :: as.map Env.digest)) := by
  simp only [mkNode, sortByDigest_of_asc hs]

@[simp] theorem WF_mkNode {s : Env} {as : List Env} :
    WF h (mkNode h s as) ↔ WF h s ∧ ∀ a ∈ as, WF h a := by
  simp [mkNode, mem_sortByDigest]

theorem Canon_mkNode {s : Env} {as : List Env} (hs : Canon s) (has : ∀ a ∈ as, Canon a)
    (hne : as ≠ []) (hd : as.Pairwise (fun a b => a.digest ≠ b.digest))
    (hslot : ∀ a ∈ as, a.slotOk = true) : Canon (mkNode h s as) := by
  simp only [mkNode, Canon_node, mem_sortByDigest, ne_eq, sortByDigest_eq_nil]
  exact ⟨hs, has, hne, sortByDigest_asc hd, hslot⟩

/-- on children with the digests of a canonical node's, the re-sort in
`new_with_unchecked_assertions` is the identity and the node's cached digest comes back -/
theorem mkNode_of_wf {s s' : Env} {as as' : List Env} {d : Digest}
    (hw : WF h (.node s as d)) (hc : AscDigests as) (hs : s'.digest = s.digest)
    (hm : as'.map Env.digest = as.map Env.digest) : mkNode h s' as' = .node s' as' d := by
  simp only [mkNode, sortByDigest_of_asc (hc.of_map_eq hm), hs, hm, ← hw.node_digest]

end

theorem memD_iff (L : List Digest) (d : Digest) : memD L d = true ↔ d ∈ L := by
  simp [memD]

theorem elide_eq (e : Env) : elide e = .elided e.digest := by cases e <;> rfl

theorem unelide_eq_ok {p e r : Env} : unelide p e = .ok r ↔ p.digest = e.digest ∧ r = e := by
  unfold unelide
  split <;> rename_i hd
  · exact ⟨fun hr => ⟨beq_iff_eq.1 hd, (Res.ok.inj hr).symm⟩, fun hr => hr.2 ▸ rfl⟩
  · exact ⟨nofun, fun hr => absurd (beq_iff_eq.2 hr.1) hd⟩

theorem unwrap_eq_ok {e r : Env} : unwrap e = .ok r ↔ ∃ d, e.subject = .wrapped r d := by
  unfold unwrap
  split <;> rename_i hs
  · rw [hs]; exact ⟨fun hr => by cases hr; exact ⟨_, rfl⟩, fun ⟨_, hr⟩ => by cases hr; rfl⟩
  · exact ⟨nofun, fun ⟨d, hr⟩ => (hs r d hr).elim⟩

theorem Env.isWrapped_false_or (x : Env) : x.isWrapped = false ∨ ∃ inner d, x = .wrapped inner d := by
  cases x <;> simp [Env.isWrapped]

theorem unwrap_ne_panic (e : Env) (s : String) : unwrap e ≠ .panic s := by
  unfold unwrap
  split <;> exact nofun

section
variable (h : Hash)

theorem Inv.newLeaf (c : Cbor) : Inv h (newLeaf h c) := ⟨rfl, trivial⟩

theorem Inv.newKnownValue (v : Nat) : Inv h (newKnownValue h v) := ⟨rfl, trivial⟩

theorem Inv.newElided {d : Digest} (hd : d.Valid) : Inv h (newElided d) := ⟨trivial, hd⟩

variable {h}

theorem Inv.newAssertion {p o : Env} (hp : Inv h p) (ho : Inv h o) : Inv h (newAssertion h p o) :=
  ⟨⟨hp.1, ho.1, rfl⟩, hp.2, ho.2⟩

theorem Inv.newWrapped {e : Env} (he : Inv h e) : Inv h (newWrapped h e) := ⟨⟨he.1, rfl⟩, he.2⟩

theorem Inv.mkNode {s : Env} {as : List Env} (hs : Inv h s) (has : ∀ a ∈ as, Inv h a)
    (hne : as ≠ []) (hd : as.Pairwise (fun a b => a.digest ≠ b.digest))
    (hslot : ∀ a ∈ as, a.slotOk = true) : Inv h (mkNode h s as) :=
  ⟨(WF_mkNode h).2 ⟨hs.1, fun a ha => (has a ha).1⟩,
   Canon_mkNode h hs.2 (fun a ha => (has a ha).2) hne hd hslot⟩

end

/-- `Digest::try_from(CBOR)` accepts exactly the tagged byte strings of valid digests -/
theorem digestOfCbor_eq_some {c : Cbor} {d : Digest} :
    digestOfCbor? c = some d ↔ c = digestCbor d ∧ d.Valid := by
  unfold digestOfCbor? digestCbor
  split
  · rename_i t b
    by_cases ht : t = TAG_DIGEST
    · simp [ht, Digest.ofBytes_eq_some, eq_comm (a := b)]
    · simp [ht]
  · rename_i hc
    simp only [reduceCtorEq, false_iff]
    rintro ⟨rfl, -⟩
    exact hc _ _ rfl

theorem digestOfCbor_digestCbor {d : Digest} (hd : d.Valid) : digestOfCbor? (digestCbor d) = some d :=
  digestOfCbor_eq_some.2 ⟨rfl, hd⟩

theorem optDigest_valid {m : EncMsg} {d : Digest} (hd : m.optDigest = some d) : d.Valid := by
  unfold EncMsg.optDigest at hd
  split at hd
  · exact (digestOfCbor_eq_some.1 hd).2
  · cases hd

theorem Inv.digest_valid {h : Hash} (hH : ∀ b, (h.H b).Valid) {e : Env} (hi : Inv h e) :
    e.digest.Valid := by
  obtain ⟨hw, hc⟩ := hi
  cases e with
  | node s as d => rw [Env.digest, hw.node_digest]; exact hH _
  | leaf c d => rw [Env.digest, (WF_leaf ..).1 hw]; exact hH _
  | wrapped e d => rw [Env.digest, ((WF_wrapped ..).1 hw).2]; exact hH _
  | assertion p o d => rw [Env.digest, ((WF_assertion ..).1 hw).2.2]; exact hH _
  | knownValue v d => rw [Env.digest, (WF_knownValue ..).1 hw]; exact hH _
  | _ => exact hc

end EnvVerif
