/-
  Lemmas/ProofLemmas.lean — inclusion proofs (C12), by positions: the verifier's
  `remove_all_found` is a filter by the walked digests; the reveal set is the chains from the
  root to the target positions; `revealing_paths_to` computes the pure function `proofOf`, whose
  positions are those on the way to a target.
-/
import EnvVerif.Lemmas.Paths
import EnvVerif.Lemmas.WalkLemmas
namespace EnvVerif
open Env

theorem memD_false_iff (L : List Digest) (d : Digest) : memD L d = false ↔ d ∉ L := by
  rw [← memD_iff]; simp

theorem walkStructure_map_digest (e : Env) (lvl : Nat) (edge : Edge) :
    (walkStructure e lvl edge).map (fun v => v.1.digest) = (elements e).map Env.digest := by
  rw [← AW.walkStructure_map_fst e lvl edge, List.map_map]; rfl

theorem walkStructureList_map_digest : (as : List Env) → (lvl : Nat) →
    (walkStructureList as lvl).map (fun v => v.1.digest) = (elementsList as).map Env.digest := by
  intro as lvl
  rw [← AW.walkStructureList_map_fst as lvl, List.map_map]; rfl

theorem walkDigests_eq_elements (e : Env) : walkDigests e = (elements e).map Env.digest :=
  walkStructure_map_digest e 0 .none

theorem mem_walkDigests_iff {d : Digest} {e : Env} :
    d ∈ walkDigests e ↔ ∃ p x, e.at p = some x ∧ x.digest = d := by
  simp only [walkDigests_eq_elements, List.mem_map, mem_elements_iff_at]
  exact ⟨fun ⟨x, ⟨p, hp⟩, hd⟩ => ⟨p, x, hp, hd⟩, fun ⟨p, x, hp, hd⟩ => ⟨x, ⟨p, hp⟩, hd⟩⟩

/-- `T` without the members of `L`, in the order of `T`: what `remove_all_found` leaves of the
targets `T` after meeting the digests `L` (`removeAllFound_eq`) -/
def filtOut (T L : List Digest) : List Digest := T.filter (fun x => !L.contains x)

theorem filtOut_nil_right (T : List Digest) : filtOut T [] = T := by simp [filtOut]

theorem filtOut_append (T L1 L2 : List Digest) : filtOut T (L1 ++ L2) = filtOut (filtOut T L1) L2 := by
  simp only [filtOut, List.filter_filter]
  apply List.filter_congr
  intro x _
  simp [Bool.and_comm]

theorem filtOut_cons (T : List Digest) (d : Digest) (L : List Digest) :
    filtOut T (d :: L) = filtOut (T.filter (· != d)) L := by
  have : d :: L = [d] ++ L := rfl
  rw [this, filtOut_append]
  congr 1
  simp only [filtOut]
  apply List.filter_congr
  intro x _
  by_cases hx : x = d <;> simp [hx]

theorem filtOut_isEmpty_iff (T L : List Digest) : (filtOut T L).isEmpty = true ↔ ∀ d ∈ T, d ∈ L := by
  simp [filtOut, List.isEmpty_iff, List.filter_eq_nil_iff]

theorem removeAllFoundList_eq_foldl (as : List Env) (T : List Digest) :
    removeAllFoundList T as = as.foldl removeAllFound T := by
  induction as generalizing T with
  | nil => rfl
  | cons a as ih => simp only [removeAllFoundList, ih, List.foldl_cons]

theorem removeAllFound_unfold (T : List Digest) (e : Env) :
    removeAllFound T e =
      if (T.filter (· != e.digest)).isEmpty then T.filter (· != e.digest)
      else e.children.foldl removeAllFound (T.filter (· != e.digest)) := by
  cases e <;> simp only [removeAllFound, Env.children, removeAllFoundList_eq_foldl, Env.digest,
    List.foldl_cons, List.foldl_nil] <;> first | rfl | exact (ite_self _).symm

/-- a fold of filters is the filter by everything they remove -/
theorem foldl_filtOut {α} (f : List Digest → α → List Digest) (g : α → List Digest) (l : List α)
    (h : ∀ a ∈ l, ∀ T, f T a = filtOut T (g a)) (T : List Digest) :
    l.foldl f T = filtOut T (l.flatMap g) := by
  induction l generalizing T with
  | nil => exact (filtOut_nil_right T).symm
  | cons a l ih =>
    rw [List.foldl_cons, List.flatMap_cons, filtOut_append, h a List.mem_cons_self,
      ih fun b hb => h b (List.mem_cons_of_mem _ hb)]

/-- the early exit of `remove_all_found` does not show -/
theorem removeAllFound_eq (e : Env) : ∀ (T : List Digest),
    removeAllFound T e = filtOut T ((elements e).map Env.digest) := by
  induction e using Env.induct_kids with
  | H e ih =>
    intro T
    rw [removeAllFound_unfold, elements_eq, List.map_cons, filtOut_cons, List.map_flatMap,
      ← foldl_filtOut _ _ _ ih]
    split
    · rename_i he
      rw [List.isEmpty_iff.1 he, foldl_filtOut _ _ _ ih]; rfl
    · rfl

theorem removeAllFoundList_eq : (as : List Env) → (T : List Digest) →
    removeAllFoundList T as = filtOut T ((elementsList as).map Env.digest) := by
  intro as T
  rw [removeAllFoundList_eq_foldl, elementsList_eq, List.map_flatMap]
  exact foldl_filtOut _ _ _ (fun a _ => removeAllFound_eq a) T

theorem revealSetsList_eq (T cur : List Digest) (as : List Env) :
    revealSetsList T cur as = as.flatMap (revealSets T cur) := by
  induction as with
  | nil => rfl
  | cons a as ih => simp only [revealSetsList, ih, List.flatMap_cons]

theorem revealSets_eq (T cur : List Digest) (e : Env) :
    revealSets T cur e = (if memD T e.digest then e.digest :: cur else []) ++
      e.children.flatMap (revealSets T (e.digest :: cur)) := by
  cases e <;> simp only [revealSets, Env.children, revealSetsList_eq, Env.digest, List.flatMap_cons,
    List.flatMap_nil, List.append_nil, List.append_assoc] <;> rfl

theorem revealSets_step (T cur : List Digest) (e : Env) (d : Digest) :
    d ∈ revealSets T cur e ↔
      (memD T e.digest = true ∧ (d = e.digest ∨ d ∈ cur)) ∨
      ∃ c ∈ e.children, d ∈ revealSets T (e.digest :: cur) c := by
  rw [revealSets_eq, List.mem_append, List.mem_flatMap]
  refine or_congr ?_ Iff.rfl
  split <;> simp [*]

theorem revealSets_iff (T : List Digest) (e : Env) : ∀ (cur : List Digest) (d : Digest),
    d ∈ revealSets T cur e ↔
      ∃ p x, e.at p = some x ∧ memD T x.digest = true ∧
        (d ∈ cur ∨ ∃ q y, q <+: p ∧ e.at q = some y ∧ y.digest = d) := by
  induction e using Env.induct_kids with
  | H e ih =>
    intro cur d
    rw [revealSets_step]
    constructor
    · rintro (⟨hm, hd⟩ | ⟨c, hc, hd⟩)
      · exact ⟨[], e, rfl, hm,
          hd.symm.imp_right fun hd => ⟨[], e, List.prefix_refl _, rfl, hd.symm⟩⟩
      · obtain ⟨st, hst⟩ := Env.mem_children_iff.1 hc
        obtain ⟨p, x, hx, hm, hd⟩ := (ih c hc _ d).1 hd
        refine ⟨st :: p, x, by rw [Env.at_cons_of_child hst]; exact hx, hm, ?_⟩
        rcases hd with hd | ⟨q, y, hq, hy, rfl⟩
        · rcases List.mem_cons.1 hd with rfl | hd
          · exact Or.inr ⟨[], e, List.nil_prefix, rfl, rfl⟩
          · exact Or.inl hd
        · exact Or.inr ⟨st :: q, y, List.cons_prefix_cons.2 ⟨rfl, hq⟩,
            by rw [Env.at_cons_of_child hst]; exact hy, rfl⟩
    · rintro ⟨p, x, hx, hm, hd⟩
      cases p with
      | nil =>
        cases hx
        refine Or.inl ⟨hm, hd.symm.imp_left ?_⟩
        rintro ⟨q, y, hq, hy, rfl⟩
        cases List.prefix_nil.1 hq; cases hy; rfl
      | cons st p =>
        obtain ⟨c, hc, hx'⟩ := Env.at_cons_some hx
        have hcc := Env.mem_children_iff.2 ⟨st, hc⟩
        refine Or.inr ⟨c, hcc, (ih c hcc _ d).2 ⟨p, x, hx', hm, ?_⟩⟩
        rcases hd with hd | ⟨q, y, hq, hy, rfl⟩
        · exact Or.inl (List.mem_cons_of_mem _ hd)
        · rcases List.prefix_cons_iff.1 hq with rfl | ⟨t, rfl, ht⟩
          · cases hy; exact Or.inl List.mem_cons_self
          · rw [Env.at_cons_of_child hc] at hy
            exact Or.inr ⟨t, y, ht, hy, rfl⟩

mutual
/-- what `revealing_paths_to` needs of `Canon` where it rebuilds a node: at least one assertion
and strictly ascending assertion digests (no 32-byte requirement on declared digests, no slot
rule) -/
def Shape : Env → Prop
  | .node s as _ => Shape s ∧ ShapeList as ∧ as ≠ [] ∧ AscDigests as
  | .leaf _ _ => True
  | .wrapped e _ => Shape e
  | .assertion p o _ => Shape p ∧ Shape o
  | .elided _ => True
  | .knownValue _ _ => True
  | .encrypted _ _ => True
  | .compressed _ _ => True
def ShapeList : List Env → Prop
  | [] => True
  | a :: as => Shape a ∧ ShapeList as
end

theorem ShapeList_iff (as : List Env) : ShapeList as ↔ ∀ a ∈ as, Shape a := by
  induction as with
  | nil => exact ⟨fun _ => nofun, fun _ => trivial⟩
  | cons a as ih => rw [ShapeList, ih, List.forall_mem_cons]

theorem Canon.shape (e : Env) : Canon e → Shape e := by
  induction e using Env.induct with
  | hnode s as d ihs ihas =>
    intro hc
    obtain ⟨h1, h2, h3, h4, _⟩ := (Canon_node ..).1 hc
    exact ⟨ihs h1, (ShapeList_iff as).2 fun a ha => ihas a ha (h2 a ha), h3, h4⟩
  | hwrapped e d ih => exact fun hc => ih hc
  | hassertion p o d ihp iho => exact fun hc => ⟨ihp hc.1, iho hc.2⟩
  | _ => exact fun _ => trivial

theorem CanonList.shape : (as : List Env) → CanonList as → ShapeList as := by
  intro as hc
  exact (ShapeList_iff as).2 fun a ha => Canon.shape a ((CanonList_iff as).1 hc a ha)

theorem hitList_eq (T : List Digest) (as : List Env) :
    hitList T as = as.any fun a => memD T a.digest || hasTargetBeneath T a := by
  induction as with
  | nil => rfl
  | cons a as ih => simp only [hitList, ih, List.any_cons]

theorem hasTargetBeneath_eq (T : List Digest) (e : Env) :
    hasTargetBeneath T e = e.children.any fun c => memD T c.digest || hasTargetBeneath T c := by
  cases e <;> first | rfl | simp only [hasTargetBeneath, Env.children, hitList_eq, List.any_cons,
    List.any_nil, Bool.or_false]

theorem hasTargetBeneath_iff (T : List Digest) (e : Env) :
    hasTargetBeneath T e = true ↔
      ∃ st t y, e.at (st :: t) = some y ∧ memD T y.digest = true := by
  induction e using Env.induct_kids with
  | H e ih =>
    rw [hasTargetBeneath_eq, List.any_eq_true]
    constructor
    · rintro ⟨c, hc, hm⟩
      obtain ⟨st, hst⟩ := Env.mem_children_iff.1 hc
      rcases Bool.or_eq_true_iff.1 hm with hm | hb
      · exact ⟨st, [], c, by rw [Env.at_cons_of_child hst]; rfl, hm⟩
      · obtain ⟨st', t, y, hy, hm⟩ := (ih c hc).1 hb
        exact ⟨st, st' :: t, y, by rw [Env.at_cons_of_child hst]; exact hy, hm⟩
    · rintro ⟨st, t, y, hy, hm⟩
      obtain ⟨c, hc, hy'⟩ := Env.at_cons_some hy
      have hcc := Env.mem_children_iff.2 ⟨st, hc⟩
      refine ⟨c, hcc, Bool.or_eq_true_iff.2 ?_⟩
      cases t with
      | nil => cases hy'; exact Or.inl hm
      | cons st' t => exact Or.inr ((ih c hcc).2 ⟨st', t, y, hy', hm⟩)

mutual
/-- what `revealing_paths_to` computes (`revealingPathsTo_eq`): keep an element only where a
target lies strictly beneath it; replace every other element by its digest -/
def proofOf (T : List Digest) : Env → Env
  | .node s as d =>
    if hasTargetBeneath T (.node s as d) then .node (proofOf T s) (proofOfList T as) d else .elided d
  | .wrapped e d =>
    if hasTargetBeneath T (.wrapped e d) then .wrapped (proofOf T e) d else .elided d
  | .assertion p o d =>
    if hasTargetBeneath T (.assertion p o d) then .assertion (proofOf T p) (proofOf T o) d
    else .elided d
  | .leaf _ d => .elided d
  | .elided d => .elided d
  | .knownValue _ d => .elided d
  | .encrypted _ d => .elided d
  | .compressed _ d => .elided d
def proofOfList (T : List Digest) : List Env → List Env
  | [] => []
  | a :: as => proofOf T a :: proofOfList T as
end

theorem proofOfList_eq_map (T : List Digest) (as : List Env) :
    proofOfList T as = as.map (proofOf T) := by
  induction as with
  | nil => rfl
  | cons a as ih => simp [proofOfList, ih]

theorem proofOf_eq (T : List Digest) (e : Env) :
    proofOf T e = if hasTargetBeneath T e then e.mapKids (proofOf T) else .elided e.digest := by
  cases e <;> first | rfl | simp only [proofOf, proofOfList_eq_map, Env.mapKids, Env.digest]

theorem proofOf_digest (T : List Digest) (e : Env) : (proofOf T e).digest = e.digest := by
  rw [proofOf_eq]; split
  · exact e.mapKids_digest _
  · rfl

theorem proofOf_isElided (T : List Digest) (e : Env) :
    (proofOf T e).isElided = !hasTargetBeneath T e := by
  rw [proofOf_eq]
  cases hb : hasTargetBeneath T e
  · rfl
  · cases e <;> first | rfl | cases hb

theorem proofOf_cases (T : List Digest) (e : Env) :
    (proofOf T e).isElided = true ∨ (proofOf T e).isInternal = true := by
  rw [proofOf_eq]
  cases hb : hasTargetBeneath T e
  · exact Or.inl rfl
  · cases e <;> first | exact Or.inr rfl | cases hb

theorem proofOf_child (T : List Digest) (e : Env) (st : Step) :
    (proofOf T e).child st =
      if hasTargetBeneath T e then (e.child st).map (proofOf T) else none := by
  rw [proofOf_eq]
  split
  · exact e.mapKids_child _ st
  · rfl

theorem proofOf_at_some {T : List Digest} {e x : Env} {p : Path} (hx : (proofOf T e).at p = some x) :
    ∃ y, e.at p = some y ∧ x = proofOf T y := by
  induction p generalizing e with
  | nil => cases hx; exact ⟨e, rfl, rfl⟩
  | cons st p ih =>
    obtain ⟨c', hc', hx'⟩ := Env.at_cons_some hx
    rw [proofOf_child] at hc'
    split at hc'
    · obtain ⟨c, hc, rfl⟩ := Option.map_eq_some_iff.1 hc'
      rw [Env.at_cons_of_child hc]; exact ih hx'
    · cases hc'

section
variable (h : Hash) (T : List Digest)

theorem revealingPathsToList_map {as : List Env}
    (hall : ∀ a ∈ as, revealingPathsTo h T a = .ok (proofOf T a)) :
    revealingPathsToList h T as = .ok (as.map (proofOf T)) := by
  induction as with
  | nil => rfl
  | cons a as ih =>
    rw [revealingPathsToList, hall a List.mem_cons_self,
      ih fun b hb => hall b (List.mem_cons_of_mem _ hb)]
    rfl

/-- on a well-formed envelope of canonical shape every rebuilt element gets back its cached
digest and its stored order: the traversal computes `proofOf` -/
theorem revealingPathsTo_eq (e : Env) : WF h e → Shape e →
    revealingPathsTo h T e = .ok (proofOf T e) := by
  induction e using Env.induct with
  | hnode s as d ihs ihas =>
    intro hw hs
    obtain ⟨hw1, hw2, _⟩ := (WF_node ..).1 hw
    obtain ⟨hs1, hs2, hne, hasc⟩ := hs
    rw [revealingPathsTo, proofOf_eq]
    cases hasTargetBeneath T (.node s as d) with
    | false => rfl
    | true =>
      have hl := revealingPathsToList_map h T fun a ha =>
        ihas a ha (hw2 a ha) ((ShapeList_iff as).1 hs2 a ha)
      have hm : (as.map (proofOf T)).map Env.digest = as.map Env.digest := by
        rw [List.map_map]; exact List.map_congr_left fun a _ => proofOf_digest T a
      simp only [Bool.not_true, Bool.false_eq_true, if_false, if_true, ihs hw1 hs1, hl]
      rw [newNodeUnchecked_eq h (fun hn => hne (List.map_eq_nil_iff.1 hn)),
        mkNode_of_wf h hw hasc (proofOf_digest T s) hm]
      rfl
  | hwrapped e d ih =>
    intro hw hs
    rw [revealingPathsTo, proofOf_eq]
    cases hasTargetBeneath T (.wrapped e d) with
    | false => rfl
    | true =>
      simp only [Bool.not_true, Bool.false_eq_true, if_false, if_true, ih hw.1 hs, newWrapped,
        proofOf_digest, ← hw.2]
      rfl
  | hassertion p o d ihp iho =>
    intro hw hs
    rw [revealingPathsTo, proofOf_eq]
    cases hasTargetBeneath T (.assertion p o d) with
    | false => rfl
    | true =>
      simp only [Bool.not_true, Bool.false_eq_true, if_false, if_true, ihp hw.1 hs.1, iho hw.2.1 hs.2,
        newAssertion, proofOf_digest, ← hw.2.2]
      rfl
  | _ => exact fun _ _ => rfl

theorem revealingPathsToList_eq : (as : List Env) → WFList h as → ShapeList as →
    revealingPathsToList h T as = .ok (proofOfList T as) := by
  intro as hw hs
  rw [proofOfList_eq_map]
  exact revealingPathsToList_map h T fun a ha =>
    revealingPathsTo_eq h T a ((WFList_iff h as).1 hw a ha) ((ShapeList_iff as).1 hs a ha)

end

/-- the subset test of `proof_contains_set` succeeds iff every target occurs: a target that
occurs is the lower end of its own chain -/
theorem all_reveal_iff (T : List Digest) (e : Env) :
    T.all (memD (revealSets T [] e)) = true ↔ ∀ d ∈ T, d ∈ walkDigests e := by
  simp only [List.all_eq_true, memD_iff, revealSets_iff, List.not_mem_nil, false_or,
    mem_walkDigests_iff]
  refine forall_congr' fun d => forall_congr' fun hd => ⟨?_, ?_⟩
  · rintro ⟨_, _, _, _, q, y, _, hy, hyd⟩
    exact ⟨q, y, hy, hyd⟩
  · rintro ⟨p, x, hx, rfl⟩
    exact ⟨p, x, hx, hd, p, x, List.prefix_refl _, hx, rfl⟩

theorem proofContainsSet_eq (h : Hash) (T : List Digest) (e : Env) (hw : WF h e) (hs : Shape e) :
    proofContainsSet h e T =
      .ok (if ∀ d ∈ T, d ∈ walkDigests e then some (proofOf T e) else none) := by
  rw [proofContainsSet, revealingPathsTo_eq h T e hw hs]
  by_cases hc : ∀ d ∈ T, d ∈ walkDigests e
  · rw [if_pos hc, (all_reveal_iff T e).2 hc]; rfl
  · rw [if_neg hc, Bool.eq_false_iff.2 (mt (all_reveal_iff T e).1 hc)]; rfl

def IsTargetPos (T : List Digest) (e : Env) (t : Path) : Prop :=
  ∃ y, e.at t = some y ∧ memD T y.digest = true

/-- position `p` lies strictly above a target position of `e` -/
def AboveTarget (T : List Digest) (e : Env) (p : Path) : Prop :=
  ∃ t, p <+: t ∧ p ≠ t ∧ IsTargetPos T e t

theorem hasTargetBeneath_at_iff {T : List Digest} {e y : Env} {p : Path} (hy : e.at p = some y) :
    hasTargetBeneath T y = true ↔ AboveTarget T e p := by
  rw [hasTargetBeneath_iff]
  constructor
  · rintro ⟨st, t, w, hw, hm⟩
    refine ⟨p ++ st :: t, ⟨st :: t, rfl⟩,
      fun heq => List.cons_ne_nil _ _ (List.self_eq_append_right.1 heq), w, ?_, hm⟩
    rw [Env.at_append, hy]; exact hw
  · rintro ⟨t, ⟨r, rfl⟩, hne, w, hw, hm⟩
    cases r with
    | nil => simp at hne
    | cons st r =>
      rw [Env.at_append, hy] at hw
      exact ⟨st, r, w, hw, hm⟩

/-- every position on the way down to a target position is a position of the proof: each
element passed has the target strictly beneath it, so `proofOf` keeps it -/
theorem proofOf_at_of_target {T : List Digest} {e y : Env} {p t : Path} (ht : IsTargetPos T e t)
    (hp : p <+: t) (hy : e.at p = some y) : (proofOf T e).at p = some (proofOf T y) := by
  induction p generalizing e t with
  | nil => cases hy; rfl
  | cons st p ih =>
    obtain ⟨r, rfl⟩ := hp
    obtain ⟨c, hc, hy'⟩ := Env.at_cons_some hy
    obtain ⟨z, hz, hm⟩ := ht
    have hb := (hasTargetBeneath_iff T e).2 ⟨st, p ++ r, z, hz, hm⟩
    rw [Env.at_cons_of_child (c := proofOf T c) (by rw [proofOf_child, hb, hc]; rfl)]
    exact ih ⟨z, by rwa [List.cons_append, Env.at_cons_of_child hc] at hz, hm⟩ (List.prefix_append _ _) hy'

theorem target_in_proof {T : List Digest} {e : Env} {d : Digest} (hdT : d ∈ T)
    (hd : d ∈ walkDigests e) : d ∈ walkDigests (proofOf T e) := by
  obtain ⟨p, y, hy, hyd⟩ := mem_walkDigests_iff.mp hd
  exact mem_walkDigests_iff.mpr ⟨p, proofOf T y,
    proofOf_at_of_target ⟨y, hy, (memD_iff _ _).mpr (hyd ▸ hdT)⟩ (List.prefix_refl _) hy,
    by rw [proofOf_digest]; exact hyd⟩

/-! the samples of C12 (a toy hash keeps the digests small) -/

namespace C12Sample

def sumH : Hash := ⟨fun b => ⟨b.foldl (fun a x => a + x.toNat) 0⟩⟩

def trivA : Aead := ⟨fun _ _ _ _ => ([], []), fun _ _ _ _ _ => none⟩
def trivZ : Deflate := ⟨id, some, fun _ => 0⟩

def lf (n : Nat) : Env := newLeaf sumH (.uint n)
/-- `1: 2`, digest 3 -/
def a1 : Env := newAssertion sumH (lf 1) (lf 2)
/-- `1: 4`, digest 5 -/
def a2 : Env := newAssertion sumH (lf 1) (lf 4)
/-- `7 [1: 2, 1: 4]`, digest 15 -/
def e0 : Env := .node (lf 7) [a1, a2] (sumH.ofDigests ((lf 7).digest :: [a1, a2].map Env.digest))
/-- targets: the leaf `2`, the assertion `1: 2` that contains it, and the leaf `4` -/
def T0 : List Digest := [⟨2⟩, ⟨3⟩, ⟨4⟩]

theorem lf_nf (n : Nat) (hn : sumH.H (Cbor.uint n).enc = ⟨n⟩) : lf n = .leaf (.uint n) ⟨n⟩ :=
  congrArg (Env.leaf _) hn

theorem a1_nf : a1 = .assertion (.leaf (.uint 1) ⟨1⟩) (.leaf (.uint 2) ⟨2⟩) ⟨3⟩ := by
  rw [a1, lf_nf 1 (by decide +kernel), lf_nf 2 (by decide +kernel)]
  exact congrArg (Env.assertion _ _) (by decide +kernel)

theorem a2_nf : a2 = .assertion (.leaf (.uint 1) ⟨1⟩) (.leaf (.uint 4) ⟨4⟩) ⟨5⟩ := by
  rw [a2, lf_nf 1 (by decide +kernel), lf_nf 4 (by decide +kernel)]
  exact congrArg (Env.assertion _ _) (by decide +kernel)

theorem e0_nf : e0 = .node (.leaf (.uint 7) ⟨7⟩)
    [.assertion (.leaf (.uint 1) ⟨1⟩) (.leaf (.uint 2) ⟨2⟩) ⟨3⟩,
     .assertion (.leaf (.uint 1) ⟨1⟩) (.leaf (.uint 4) ⟨4⟩) ⟨5⟩] ⟨15⟩ := by
  rw [e0, lf_nf 7 (by decide +kernel), a1_nf, a2_nf]
  exact congrArg (Env.node _ _) (by decide +kernel)

theorem a1_digest : a1.digest = ⟨3⟩ := by rw [a1_nf]; rfl
theorem e0_digest : e0.digest = ⟨15⟩ := by rw [e0_nf]; rfl

theorem inv_lf (n : Nat) : Inv sumH (lf n) := Inv.newLeaf sumH _
theorem inv_a1 : Inv sumH a1 := (inv_lf 1).newAssertion (inv_lf 2)
theorem inv_a2 : Inv sumH a2 := (inv_lf 1).newAssertion (inv_lf 4)

theorem inv_e0 : Inv sumH e0 :=
  AW.rebuild_inv (as := [a1, a2]) (inv_lf 7)
    (List.forall_mem_cons.2 ⟨inv_a1, List.forall_mem_cons.2 ⟨inv_a2, nofun⟩⟩)
    (by rw [AscDigests, a1_nf, a2_nf]; decide)
    (List.forall_mem_cons.2 ⟨rfl, List.forall_mem_cons.2 ⟨rfl, nofun⟩⟩)

theorem all_e0 : ∀ d ∈ T0, d ∈ walkDigests e0 := by rw [e0_nf]; decide +kernel
theorem proof_e0 :
    proofContainsSet sumH e0 T0 = .ok (some (proofOf T0 e0)) := by
  rw [proofContainsSet_eq sumH T0 e0 inv_e0.1 (Canon.shape e0 inv_e0.2), if_pos all_e0]

/-- an obscured copy of an element on the path to the target: the subject is a compressed
element carrying the digest of the assertion `1: 2` -/
def eB : Env :=
  .node (.compressed ⟨0, 0, []⟩ ⟨3⟩) [a1] (sumH.ofDigests (⟨3⟩ :: [a1].map Env.digest))
def TB : List Digest := [⟨2⟩]

theorem inv_eB : Inv sumH eB :=
  AW.rebuild_inv (s := .compressed ⟨0, 0, []⟩ ⟨3⟩) (as := [a1])
    ⟨trivial, (by decide : (3 : Nat) < 2 ^ 256)⟩
    (List.forall_mem_cons.2 ⟨inv_a1, nofun⟩) (List.pairwise_singleton _ _)
    (List.forall_mem_cons.2 ⟨rfl, nofun⟩)

theorem eB_nf : eB = .node (.compressed ⟨0, 0, []⟩ ⟨3⟩)
    [.assertion (.leaf (.uint 1) ⟨1⟩) (.leaf (.uint 2) ⟨2⟩) ⟨3⟩] ⟨6⟩ := by
  rw [eB, a1_nf]; exact congrArg (Env.node _ _) (by decide +kernel)

theorem all_eB : ∀ d ∈ TB, d ∈ walkDigests eB := by rw [eB_nf]; decide +kernel

/-- the compressed subject is elided in the proof: only the path `root -> 1: 2 -> 2` shows -/
theorem proof_eB : proofOf TB eB =
    .node (.elided ⟨3⟩) [.assertion (.elided ⟨1⟩) (.elided ⟨2⟩) ⟨3⟩] eB.digest := by
  rw [eB_nf]; rfl

/-- `WF`, but with an empty assertion list (never produced by the library): the rebuilding
`assert!` fires -/
def eP : Env := .node (.leaf (.uint 7) ⟨7⟩) [] ⟨7⟩

theorem wf_eP : WF sumH eP := by
  simp only [eP, WF, WFList, List.map_nil, Env.digest, true_and]
  exact ⟨by decide +kernel, by decide +kernel⟩

theorem proofContainsSet_eP :
    proofContainsSet sumH eP [⟨7⟩] = .panic "envelope.rs:new_with_unchecked_assertions:assert" := by
  have hR : memD (revealSets [⟨7⟩] [] eP) ⟨7⟩ = true := by decide +kernel
  simp only [proofContainsSet, List.all_cons, List.all_nil, hR, Bool.and_true, Bool.not_true,
    Bool.false_eq_true, if_false]
  have h1 : revealingPathsTo sumH [⟨7⟩] eP
      = .panic "envelope.rs:new_with_unchecked_assertions:assert" := by
    simp [eP, revealingPathsTo, revealingPathsToList, hasTargetBeneath, hitList, newNodeUnchecked,
      memD, elide, Env.digest]
  rw [h1]

end C12Sample

end EnvVerif
