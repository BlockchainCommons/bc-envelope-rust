/-
  Lemmas/ObscureLemmas.lean — `encrypt_subject`, `decrypt_subject`, `encrypt`, `compress`, `uncompress`,
  `compress_subject`, `uncompress_subject`.  The four subject operations share one notion:
  `Env.setSubject` and `withSubject` (how the library rebuilds it), which agree on an envelope that
  satisfies the invariant when the new subject has the digest of the old one.

  The root namespace has the equations the other layers rewrite with, `Obs` the rest; `Obs.encSubj`,
  `Obs.encryptSubjectSpec`, `Obs.encryptRefusal` stand ahead of `namespace Obs` because the root
  equations of `encrypt_subject_opt` are stated with them.
-/
import EnvVerif.Lemmas.Laws
import EnvVerif.Lemmas.CodecLemmas
import EnvVerif.Lemmas.AssembleLemmas
namespace EnvVerif
open Env

/-- The one codec fact `Envelope::new_with_encrypted(..).unwrap()` relies on.  It follows from the
first codec law for every 32-byte digest (`aadOk_of_valid`); it is *false* in the model for
`d.val ≥ 2^256`, which is why it is not assumed for every `d`. -/
def AadOk (d : Digest) : Prop :=
  ∀ m : EncMsg, m.aad = (digestCbor d).enc → m.optDigest = some d

def AadLaw : Prop := ∀ d : Digest, d.Valid → AadOk d

def HashValid (h : Hash) : Prop := ∀ b, (h.H b).Valid

theorem aadOk_of_valid {d : Digest} (hd : d.Valid) : AadOk d := fun _ hm => optDigest_of_aad hd hm

theorem encryptWithDigest_aad (A : Aead) (k n pt : Bytes) (d : Digest) :
    (encryptWithDigest A k n pt d).aad = (digestCbor d).enc := rfl

theorem newEncryptedUnwrap_eq {m : EncMsg} {d : Digest} (hm : m.optDigest = some d) (site : String) :
    newEncryptedUnwrap m site = .ok (.encrypted m d) := by
  simp only [newEncryptedUnwrap, hm]

theorem newEncryptedUnwrap_ok {m : EncMsg} {site : String} {r : Env}
    (hr : newEncryptedUnwrap m site = .ok r) : ∃ d, m.optDigest = some d ∧ r = .encrypted m d := by
  unfold newEncryptedUnwrap at hr
  split at hr
  · rename_i d hd; cases hr; exact ⟨d, hd, rfl⟩
  · cases hr

theorem newEncryptedUnwrap_not_err (m : EncMsg) (site x : String) :
    newEncryptedUnwrap m site ≠ .err x := by
  unfold newEncryptedUnwrap; split <;> simp

theorem newEncryptedUnwrap_encryptWithDigest (A : Aead) (k n p : Bytes) {d : Digest} (ha : AadOk d)
    (site : String) :
    newEncryptedUnwrap (encryptWithDigest A k n p d) site =
      .ok (.encrypted (encryptWithDigest A k n p d) d) :=
  newEncryptedUnwrap_eq (ha _ rfl) site

section
variable (Z : Deflate)

theorem compress_ok {e r : Env} (hr : compress Z e = .ok r) : ∃ c, r = .compressed c e.digest := by
  cases e <;> simp only [compress, Res.ok.injEq, reduceCtorEq] at hr <;> exact ⟨_, hr.symm⟩

theorem compress_ok_digest {e r : Env} (hr : compress Z e = .ok r) : r.digest = e.digest := by
  obtain ⟨c, rfl⟩ := compress_ok Z hr; rfl

theorem compress_ok_iff (e : Env) :
    (∃ r, compress Z e = .ok r) ↔ (e.isElided = false ∧ e.isEncrypted = false) := by
  cases e <;> simp [compress, Env.isElided, Env.isEncrypted]

theorem compress_not_panic (e : Env) (s : String) : compress Z e ≠ .panic s := by
  cases e <;> simp [compress]

end

/-- the encrypted element `encrypt_subject_opt` makes of a subject -/
def Obs.encSubj (A : Aead) (k n : Bytes) (s : Env) : Env :=
  .encrypted (encryptWithDigest A k n (encode s) s.digest) s.digest

/-- the result of `encrypt_subject_opt` when it does not refuse -/
def Obs.encryptSubjectSpec (A : Aead) (k n : Bytes) : Env → Env
  | .node s as d => .node (Obs.encSubj A k n s) as d
  | e => Obs.encSubj A k n e

/-- the refusals of `encrypt_subject_opt` -/
def Obs.encryptRefusal : Env → Option String
  | .node s _ _ => if s.isEncrypted then some "AlreadyEncrypted" else none
  | .encrypted .. => some "AlreadyEncrypted"
  | .elided .. => some "AlreadyElided"
  | _ => none

/-- `e` over another subject: the assertions and the cached digest stay -/
def Env.setSubject : Env → Env → Env
  | .node _ as d, s => .node s as d
  | _, s => s

theorem Env.setSubject_self (e : Env) : e.setSubject e.subject = e := by cases e <;> rfl

theorem Env.subject_of_not_node {s : Env} (hs : s.isNode = false) :
    s.subject = s ∧ s.assertions = [] := by
  cases s <;> first | exact ⟨rfl, rfl⟩ | cases hs

theorem setSubject_digest {e s : Env} (hd : s.digest = e.subject.digest) :
    (e.setSubject s).digest = e.digest := by
  cases e <;> first | rfl | exact hd

theorem setSubject_shape (e : Env) {s : Env} (hs : s.isNode = false) :
    (e.setSubject s).subject = s ∧ (e.setSubject s).assertions = e.assertions ∧
      (e.setSubject s).isNode = e.isNode := by
  cases e with
  | node s0 as d => exact ⟨rfl, rfl, rfl⟩
  | _ => exact ⟨(subject_of_not_node hs).1, (subject_of_not_node hs).2, hs⟩

section
variable (h : Hash)

/-- `e` rebuilt over another subject, as `encrypt_subject_opt`, `decrypt_subject` and
`uncompress_subject` do it: `new_with_unchecked_assertions` for a node, the subject itself otherwise -/
def withSubject (e s : Env) : Res Env :=
  match e with
  | .node _ as _ => newNodeUnchecked h s as
  | _ => .ok s

theorem withSubject_node (s0 : Env) (as : List Env) (d : Digest) (s : Env) :
    withSubject h (.node s0 as d) s = newNodeUnchecked h s as := rfl

theorem withSubject_of_not_node {e : Env} (hn : e.isNode = false) (s : Env) :
    withSubject h e s = .ok s := by
  cases e <;> first | rfl | cases hn

/-- the re-sort is the identity and the recomputed digest is the cached one -/
theorem withSubject_of_inv {e s : Env} (hi : Inv h e) (hd : s.digest = e.subject.digest) :
    withSubject h e s = .ok (e.setSubject s) := by
  cases e with
  | node s0 as d =>
    exact (newNodeUnchecked_eq h (hi.2.assertions_ne_nil)).trans
      (congrArg Res.ok (mkNode_of_wf h hi.1 hi.2.asc hd rfl))
  | _ => rfl

theorem setSubject_inv {e s : Env} (hi : Inv h e) (hs : Inv h s) (hd : s.digest = e.subject.digest) :
    Inv h (e.setSubject s) := by
  cases e with
  | node s0 as d =>
    have hw := (WF_node ..).1 hi.1
    have hc := (Canon_node ..).1 hi.2
    exact ⟨(WF_node ..).2 ⟨hs.1, hw.2.1, by rw [hd]; exact hw.2.2⟩, (Canon_node ..).2 ⟨hs.2, hc.2⟩⟩
  | _ => exact hs

open AW in
/-- the fold of `add_assertion_envelope(..).unwrap()` puts every assertion back where it was -/
theorem replaceSubject_of_inv {e s : Env} (hi : Inv h e) (hs : s.isNode = false)
    (hd : s.digest = e.subject.digest) : replaceSubject h e s = .ok (e.setSubject s) := by
  have hslot : e.assertions.all slotOk = true := List.all_eq_true.2 hi.2.slotOk
  rw [replaceSubject_eq, if_pos hslot]
  refine (addAll_rebuild h e.assertions (s := s) (as := []) (Or.inl hs)).trans ?_
  rw [if_pos hslot, foldl_normAdd_of_asc hi.2.asc]
  cases e with
  | node s0 as d =>
    rw [hi.1.node_digest]
    exact congrArg Res.ok ((rebuild_ne (hi.2.assertions_ne_nil)).trans (by rw [nodeOf, hd]; rfl))
  | _ => rfl

end

theorem Obs.encryptSubjectSpec_eq (A : Aead) (k n : Bytes) (e : Env) :
    Obs.encryptSubjectSpec A k n e = e.setSubject (Obs.encSubj A k n e.subject) := by
  cases e <;> rfl

section
variable (h : Hash) (A : Aead)

/-- the closing `assert_eq!` of `encrypt_subject_opt` -/
def encFinish (orig : Digest) (r : Env) : Res Env :=
  if r.digest == orig then .ok r else .panic "encrypt.rs:encrypt_subject_opt:assert_eq"

theorem encFinish_eq_ok {d : Digest} {r x : Env} : encFinish d r = .ok x ↔ x = r ∧ r.digest = d := by
  unfold encFinish
  split
  · rename_i hd
    exact ⟨fun hx => by cases hx; exact ⟨rfl, by simpa using hd⟩, fun hx => by rw [hx.1]⟩
  · rename_i hd
    exact ⟨fun hx => (by cases hx), fun hx => absurd (by simpa using hx.2) hd⟩

theorem encryptSubject_step (k n : Bytes) (e : Env) :
    encryptSubject h A k n e =
      match Obs.encryptRefusal e with
      | some x => .err x
      | none =>
        (newEncryptedUnwrap (encryptWithDigest A k n (encode e.subject) e.subject.digest)
          "encrypt.rs:encrypt_subject_opt:new_with_encrypted.unwrap").bind fun es =>
        (withSubject h e es).bind (encFinish e.digest) := by
  unfold encryptSubject
  /- As soon as `e` is a constructor the kernel, asked to compare two `match`es on
  `newEncryptedUnwrap (encryptWithDigest ..)`, unfolds the matcher first and evaluates the call, that
  is, runs the CBOR decoder on the additional data (a million heartbeats each time).  So the call
  becomes a variable, and the case analysis is checked as a lemma of its own in which it stays one
  (inline, the generalisation would be instantiated away before the kernel sees the proof). -/
  generalize newEncryptedUnwrap = g
  as_aux_lemma =>
  cases e with
  | node s as d =>
    simp only [Obs.encryptRefusal, Env.subject]
    split
    · rfl
    · cases g (encryptWithDigest A k n (encode s) s.digest) _ with
      | ok es => simp only [Res.bind, withSubject_node]; cases newNodeUnchecked h es as <;> rfl
      | _ => rfl
  | encrypted m d => rfl
  | elided d => rfl
  | _ => simp only [Obs.encryptRefusal, Env.subject]; cases g _ _ <;> rfl

/-- the last step of `encrypt_subject_opt` checks it -/
theorem encryptSubject_ok_digest {k n : Bytes} {e r : Env}
    (hr : encryptSubject h A k n e = .ok r) : r.digest = e.digest := by
  rw [encryptSubject_step] at hr
  split at hr
  · cases hr
  · obtain ⟨_, _, hr⟩ := Res.bind_eq_ok.1 hr
    obtain ⟨x, _, hr⟩ := Res.bind_eq_ok.1 hr
    obtain ⟨rfl, hd⟩ := encFinish_eq_ok.1 hr
    exact hd

/-- **`encrypt_subject_opt` in closed form** under `Inv` and `AadOk` at the subject's digest: neither
`new_with_encrypted(..).unwrap()` nor the `assert_eq!` fires -/
theorem encryptSubject_eq (k n : Bytes) {e : Env} (hi : Inv h e) (ha : AadOk e.subject.digest) :
    encryptSubject h A k n e =
      match Obs.encryptRefusal e with
      | some x => .err x
      | none => .ok (Obs.encryptSubjectSpec A k n e) := by
  rw [encryptSubject_step, newEncryptedUnwrap_encryptWithDigest A k n _ ha, Obs.encryptSubjectSpec_eq]
  split
  · rfl
  · rw [Res.ok_bind, Obs.encSubj, withSubject_of_inv h hi (s := .encrypted _ e.subject.digest) rfl,
      Res.ok_bind]
    exact encFinish_eq_ok.2 ⟨rfl, setSubject_digest rfl⟩

/-- `encrypt`: unfolding `encryptWhole` makes the kernel evaluate `encryptSubject` on the constructor
`wrapped` (see `encryptSubject_step`); it is done here and nowhere else -/
theorem encryptWhole_eq_ok {k n : Bytes} {e r : Env} :
    encryptWhole h A k n e = .ok r ↔ encryptSubject h A k n (wrap h e) = .ok r := by
  unfold encryptWhole
  cases encryptSubject h A k n (wrap h e) <;> simp

theorem encryptWhole_eq {k n : Bytes} {e : Env} (ha : AadOk (wrap h e).digest) :
    encryptWhole h A k n e =
      .ok (.encrypted (encryptWithDigest A k n (encode (wrap h e)) (wrap h e).digest) (wrap h e).digest) := by
  have hs : (wrap h e).subject = wrap h e := rfl
  rw [encryptWhole_eq_ok, encryptSubject_step, hs, newEncryptedUnwrap_encryptWithDigest A _ _ _ ha]
  exact encFinish_eq_ok.2 ⟨rfl, rfl⟩

end

section
variable (h : Hash) (Z : Deflate)

/-- **`compress_subject` in closed form** under the invariant (both branches of its `if`) -/
theorem compressSubject_eq {e : Env} (hi : Inv h e) :
    compressSubject h Z e = (compress Z e.subject).bind fun c => .ok (e.setSubject c) := by
  unfold compressSubject
  split
  · rename_i hc
    cases hs : e.subject with
    | compressed c d => rw [compress, ← hs, Res.ok_bind, e.setSubject_self]
    | _ => rw [hs] at hc; cases hc
  · cases hc : compress Z e.subject with
    | ok c =>
      obtain ⟨m, rfl⟩ := compress_ok Z hc
      exact replaceSubject_of_inv h hi rfl rfl
    | _ => rfl

theorem compressSubject_eq_ok {e z : Env} (hi : Inv h e) :
    compressSubject h Z e = .ok z ↔ ∃ c, compress Z e.subject = .ok c ∧ z = e.setSubject c := by
  rw [compressSubject_eq h Z hi, Res.bind_eq_ok]
  simp only [Res.ok.injEq, eq_comm]

theorem uncompressSubject_eq (e : Env) :
    uncompressSubject h Z e =
      if e.subject.isCompressed then (uncompress h Z e.subject).bind (withSubject h e) else .ok e := by
  unfold uncompressSubject withSubject
  rfl

theorem withSubject_setSubject (e : Env) {c : Env} (hc : c.isNode = false) (s : Env) :
    withSubject h (e.setSubject c) s = withSubject h e s := by
  cases e with
  | node s0 as d => rfl
  | _ => exact withSubject_of_not_node h hc s

/-- a canonical node has an assertion, so the `assert!` of `new_with_unchecked_assertions` holds -/
theorem withSubject_ne_panic {e : Env} (hc : Canon e) (s : Env) (p : String) :
    withSubject h e s ≠ .panic p := by
  cases e with
  | node s0 as d =>
    rw [withSubject_node, newNodeUnchecked_eq h (hc.assertions_ne_nil)]
    intro hh; cases hh
  | _ => intro hh; cases hh

theorem withSubject_rebuild {c : Env} (hc : c.isNode = false) (s : Env) {as : List Env}
    (hasc : AscDigests as) : withSubject h (AW.rebuild h c as) s = .ok (AW.rebuild h s as) := by
  cases as with
  | nil => exact withSubject_of_not_node h hc s
  | cons a as =>
    exact (newNodeUnchecked_eq h (List.cons_ne_nil a as)).trans (congrArg Res.ok (mkNode_of_asc h hasc))

end

namespace Obs

theorem bind_eq_ok {α β} {r : Res α} {f : α → Res β} {y : β} (hb : r.bind f = .ok y) :
    ∃ x, r = .ok x ∧ f x = .ok y :=
  Res.bind_eq_ok.1 hb

theorem aadReadsBack : AadReadsBack := fun _ hd _ _ _ => _root_.EnvVerif.optDigest_of_aad hd rfl

theorem decryptMsg_encryptWithDigest {A : Aead} (L : AeadLaws A) (k n p : Bytes) (d : Digest) :
    decryptMsg A k (encryptWithDigest A k n p d) = some p := by
  simp only [decryptMsg, encryptWithDigest]
  exact L.dec_enc k n p _

theorem decryptMsg_wrong_key {A : Aead} (L : AeadLaws A) {k k' : Bytes} (hk : k' ≠ k)
    (n p : Bytes) (d : Digest) :
    decryptMsg A k' (encryptWithDigest A k n p d) = none := by
  simp only [decryptMsg, encryptWithDigest]
  exact L.dec_other k n p _ k' n _ (Or.inl hk)

theorem uncompressMsg_compressedOf {Z : Deflate} (L : DeflateLaws Z) (data : Bytes) :
    uncompressMsg Z (compressedOf Z data) = some data := by
  by_cases hlt : ((Z.deflate data).length != 0 && decide ((Z.deflate data).length < data.length)) = true
  · simp only [compressedOf, hlt, if_true]
    simp only [Bool.and_eq_true, decide_eq_true_eq] at hlt
    have hnot : ¬ ((Z.deflate data).length ≥ data.length) := by omega
    simp only [uncompressMsg, hnot, if_false, L.inflate_deflate, beq_self_eq_true, if_true]
  · simp only [compressedOf, hlt, Bool.false_eq_true, if_false, uncompressMsg, ge_iff_le,
      Nat.le_refl, if_true]

theorem encryptRefusal_eq_none {e : Env} :
    encryptRefusal e = none ↔ e.subject.isEncrypted = false ∧ e.isElided = false := by
  cases e with
  | node s as d =>
    simp only [encryptRefusal, Env.subject, Env.isElided, and_true]
    cases s.isEncrypted <;> simp
  | _ => simp [encryptRefusal, Env.subject, Env.isEncrypted, Env.isElided]

theorem encryptRefusal_eq_some {e : Env} {x : String} :
    encryptRefusal e = some x ↔
      (x = "AlreadyEncrypted" ∧ e.subject.isEncrypted = true) ∨
      (x = "AlreadyElided" ∧ e.isElided = true) := by
  cases e with
  | node s as d =>
    simp only [encryptRefusal, Env.subject, Env.isElided, Bool.false_eq_true, and_false, or_false]
    cases s.isEncrypted
    · simp
    · simp [eq_comm]
  | encrypted m d => simp [encryptRefusal, Env.subject, Env.isEncrypted, Env.isElided, eq_comm]
  | elided d => simp [encryptRefusal, Env.subject, Env.isEncrypted, Env.isElided, eq_comm]
  | _ => simp [encryptRefusal, Env.subject, Env.isEncrypted, Env.isElided]

theorem encryptSubjectSpec_subject (A : Aead) (k n : Bytes) (e : Env) :
    (encryptSubjectSpec A k n e).subject = encSubj A k n e.subject := by
  rw [encryptSubjectSpec_eq]; exact (setSubject_shape e rfl).1

theorem encryptSubjectSpec_digest (A : Aead) (k n : Bytes) (e : Env) :
    (encryptSubjectSpec A k n e).digest = e.digest := by
  rw [encryptSubjectSpec_eq]; exact setSubject_digest rfl

theorem encryptSubjectSpec_assertions (A : Aead) (k n : Bytes) (e : Env) :
    (encryptSubjectSpec A k n e).assertions = e.assertions := by
  rw [encryptSubjectSpec_eq]; exact (setSubject_shape e rfl).2.1

theorem encryptSubject_eq_of_hashValid (h : Hash) (A : Aead) (k n : Bytes) {e : Env} (hi : Inv h e)
    (hH : ∀ b, (h.H b).Valid) :
    encryptSubject h A k n e =
      match encryptRefusal e with
      | some x => .err x
      | none => .ok (encryptSubjectSpec A k n e) :=
  encryptSubject_eq h A k n hi (aadOk_of_valid (hi.subject.digest_valid hH))

theorem encryptSubject_ok (h : Hash) (A : Aead) (k n : Bytes) {e r : Env} (hi : Inv h e)
    (hH : ∀ b, (h.H b).Valid) (hr : encryptSubject h A k n e = .ok r) :
    r = encryptSubjectSpec A k n e ∧ encryptRefusal e = none := by
  rw [encryptSubject_eq_of_hashValid h A k n hi hH] at hr
  cases hf : encryptRefusal e with
  | some x => rw [hf] at hr; cases hr
  | none => rw [hf] at hr; cases hr; exact ⟨rfl, rfl⟩

theorem encryptSubjectSpec_inv (h : Hash) (A : Aead) (k n : Bytes) {e : Env} (hi : Inv h e)
    (hH : ∀ b, (h.H b).Valid) : Inv h (encryptSubjectSpec A k n e) := by
  have hv := hi.subject.digest_valid hH
  rw [encryptSubjectSpec_eq]
  exact setSubject_inv h hi ⟨optDigest_encryptWithDigest A k n _ hv, hv⟩ rfl

section
variable (h : Hash) (A : Aead)

theorem envOfCborList_np : (cs : List Cbor) → (p : String) → envOfCborList h cs ≠ .panic p :=
  envOfCborList_no_panic_aux h

theorem subject_encrypted_cases {r : Env} {m : EncMsg} {d0 : Digest}
    (hs : r.subject = .encrypted m d0) :
    r = .encrypted m d0 ∨ ∃ as d, r = .node (.encrypted m d0) as d := by
  cases r with
  | node s as d => simp only [Env.subject] at hs; subst hs; exact Or.inr ⟨as, d, rfl⟩
  | encrypted m' d' => exact Or.inl hs
  | _ => cases hs

theorem decryptSubject_not_encrypted {k : Bytes} {r : Env} (hs : r.subject.isEncrypted = false) :
    decryptSubject h A k r = .err "NotEncrypted" := by
  unfold decryptSubject
  split
  · rename_i m d0 heq
    rw [heq] at hs
    cases hs
  · rfl

/-- the last comparison of `decrypt_subject`, which only a node gets -/
def decFinish (r x : Env) : Res Env :=
  if r.isNode && x.digest != r.digest then .err "InvalidDigest" else .ok x

theorem decFinish_of_digest {r x : Env} (hd : x.digest = r.digest) : decFinish r x = .ok x := by
  rw [decFinish, hd, bne_self_eq_false, Bool.and_false]; rfl

theorem decFinish_node_of_ne {s x : Env} {as : List Env} {d : Digest} (hd : x.digest ≠ d) :
    decFinish (.node s as d) x = .err "InvalidDigest" :=
  if_pos (by simpa [Env.isNode, Env.digest] using hd)

theorem decFinish_ne_panic (r x : Env) (s : String) : decFinish r x ≠ .panic s := by
  unfold decFinish; split <;> nofun

theorem decFinish_eq_ok {r x y : Env} :
    decFinish r x = .ok y ↔ y = x ∧ (r.isNode = true → x.digest = r.digest) := by
  unfold decFinish
  split <;> rename_i hc <;> simp only [Bool.and_eq_true, bne_iff_ne, ne_eq] at hc
  · exact ⟨nofun, fun hy => absurd (hy.2 hc.1) hc.2⟩
  · exact ⟨fun hy => by cases hy; exact ⟨rfl, fun hn => Classical.byContradiction fun hd => hc ⟨hn, hd⟩⟩,
      fun hy => by rw [hy.1]⟩

theorem decryptSubject_of_encrypted {k : Bytes} {r : Env} {m : EncMsg} {d0 : Digest}
    (hs : r.subject = .encrypted m d0) :
    decryptSubject h A k r =
      match decryptMsg A k m with
      | none => .err "dep:Decrypt_failed"
      | some pt =>
        match m.optDigest with
        | none => .err "MissingDigest"
        | some sd =>
          (decode h pt).bind fun rs =>
            if rs.digest != sd then .err "InvalidDigest" else
            (withSubject h r rs).bind (decFinish r) := by
  unfold decryptSubject
  simp only [hs]
  cases decryptMsg A k m with
  | none => rfl
  | some pt =>
    dsimp only
    cases m.optDigest with
    | none => rfl
    | some sd =>
      dsimp only
      cases decode h pt with
      | ok rs =>
        rcases subject_encrypted_cases hs with rfl | ⟨as, d, rfl⟩
        · rfl
        · simp only [Res.ok_bind, withSubject_node]
          cases newNodeUnchecked h rs as <;> rfl
      | _ => rfl

theorem decryptSubject_dec_none {k : Bytes} {r : Env} {m : EncMsg} {d0 : Digest}
    (hs : r.subject = .encrypted m d0) (hd : decryptMsg A k m = none) :
    decryptSubject h A k r = .err "dep:Decrypt_failed" := by
  rw [decryptSubject_of_encrypted h A hs, hd]

theorem decryptSubject_opened {k pt : Bytes} {r rs : Env} {m : EncMsg} {d0 : Digest}
    (hs : r.subject = .encrypted m d0) (hd : decryptMsg A k m = some pt)
    (ho : m.optDigest = some rs.digest) (hx : decode h pt = .ok rs) :
    decryptSubject h A k r = (withSubject h r rs).bind (decFinish r) := by
  rw [decryptSubject_of_encrypted h A hs, hd, ho]
  simp only [hx, Res.ok_bind, bne_self_eq_false, Bool.false_eq_true, if_false]

/-- a successful `decrypt_subject` is one that `decryptSubject_opened` describes, and both of its last
two steps went through -/
theorem decryptSubject_ok {k : Bytes} {r x : Env} (hr : decryptSubject h A k r = .ok x) :
    ∃ m d0 pt rs, r.subject = .encrypted m d0 ∧ decryptMsg A k m = some pt ∧
      m.optDigest = some rs.digest ∧ decode h pt = .ok rs ∧
      withSubject h r rs = .ok x ∧ (r.isNode = true → x.digest = r.digest) := by
  cases hsub : r.subject with
  | encrypted m d0 =>
    rw [decryptSubject_of_encrypted h A hsub] at hr
    cases hd : decryptMsg A k m with
    | none => rw [hd] at hr; cases hr
    | some pt =>
      cases ho : m.optDigest with
      | none => rw [hd, ho] at hr; cases hr
      | some dd =>
        rw [hd, ho] at hr
        obtain ⟨rs, hx, hr⟩ := Res.bind_eq_ok.1 hr
        split at hr
        · cases hr
        · rename_i hne
          obtain ⟨x', hw, hf⟩ := Res.bind_eq_ok.1 hr
          obtain ⟨rfl, hfd⟩ := decFinish_eq_ok.1 hf
          obtain rfl : rs.digest = dd := by simpa using hne
          exact ⟨m, d0, pt, rs, rfl, hd, ho, hx, hw, hfd⟩
  | _ =>
    rw [decryptSubject_not_encrypted h A (by rw [hsub]; rfl)] at hr
    cases hr

/-- its one panic site is `new_with_unchecked_assertions` on a node without assertions -/
theorem decryptSubject_ne_panic {k : Bytes} {r : Env} (hc : Canon r) (s : String) :
    decryptSubject h A k r ≠ .panic s := by
  cases hsub : r.subject with
  | encrypted m d0 =>
    rw [decryptSubject_of_encrypted h A hsub]
    cases decryptMsg A k m with
    | none => nofun
    | some pt =>
      cases m.optDigest with
      | none => nofun
      | some dd =>
        refine Res.bind_ne_panic (decode_sat h pt).ne_panic (fun rs _ s => ?_) s
        split
        · nofun
        · exact Res.bind_ne_panic (withSubject_ne_panic h hc rs) (fun x _ => decFinish_ne_panic r x) s
  | _ => rw [decryptSubject_not_encrypted h A (by rw [hsub]; rfl)]; nofun

theorem decryptSubject_setSubject (L : AeadLaws A) (k n : Bytes) {e s : Env} (hi : Inv h e)
    (hd : s.digest = e.subject.digest) (hv : s.digest.Valid) (hrt : RoundTrips h s) :
    decryptSubject h A k (e.setSubject (encSubj A k n s)) = .ok (e.setSubject s) := by
  rw [decryptSubject_opened h A (setSubject_shape e (s := encSubj A k n s) rfl).1
      (decryptMsg_encryptWithDigest L k n _ _) (optDigest_encryptWithDigest A k n _ hv) hrt,
    withSubject_setSubject h e rfl, withSubject_of_inv h hi hd, Res.ok_bind]
  exact decFinish_of_digest
    ((setSubject_digest hd).trans (setSubject_digest (s := encSubj A k n s) hd).symm)

theorem decryptSubject_rebuild_of {k pt : Bytes} {m : EncMsg} {d0 : Digest} {rs : Env} {as : List Env}
    (hd : decryptMsg A k m = some pt) (ho : m.optDigest = some d0) (hx : decode h pt = .ok rs)
    (hrs : rs.digest = d0) (hasc : AscDigests as) :
    decryptSubject h A k (AW.rebuild h (.encrypted m d0) as) = .ok (AW.rebuild h rs as) := by
  subst hrs
  rw [decryptSubject_opened h A (AW.rebuild_subject h (Or.inl rfl)) hd ho hx,
    withSubject_rebuild h rfl rs hasc, Res.ok_bind]
  exact decFinish_of_digest (by cases as <;> rfl)

/-- `decryptSubject_setSubject` over an ascending assertion list that need not satisfy the invariant -/
theorem decryptSubject_rebuild (L : AeadLaws A) (k n : Bytes) {s : Env} {as : List Env}
    (hv : s.digest.Valid) (hrt : RoundTrips h s) (hasc : AscDigests as) :
    decryptSubject h A k (AW.rebuild h (encSubj A k n s) as) = .ok (AW.rebuild h s as) :=
  decryptSubject_rebuild_of h A (decryptMsg_encryptWithDigest L k n _ _)
    (optDigest_encryptWithDigest A k n _ hv) hrt rfl hasc

theorem decryptSubject_rebuild_wrong_key (L : AeadLaws A) (k k' n : Bytes) {s : Env} {as : List Env}
    (hk : k' ≠ k) :
    decryptSubject h A k' (AW.rebuild h (encSubj A k n s) as) = .err "dep:Decrypt_failed" :=
  decryptSubject_dec_none h A (AW.rebuild_subject h (Or.inl rfl)) (decryptMsg_wrong_key L hk n _ _)

theorem decryptSubject_key_unique (L : AeadLaws A) {k k' : Bytes} {r x x' : Env}
    (h1 : decryptSubject h A k r = .ok x) (h2 : decryptSubject h A k' r = .ok x') : k = k' := by
  obtain ⟨m, d0, pt, rs, hs, hd, _⟩ := decryptSubject_ok h A h1
  obtain ⟨m', d0', pt', rs', hs', hd', _⟩ := decryptSubject_ok h A h2
  rw [hs] at hs'
  cases hs'
  have e1 := L.dec_only_enc _ _ _ _ _ _ hd
  have e2 := L.dec_only_enc _ _ _ _ _ _ hd'
  rw [e1] at e2
  exact (L.enc_inj _ _ _ _ _ _ _ _ e2).1

theorem decryptSubject_other_assertions {k : Bytes} {e x : Env} (hi : Inv h e)
    (hx : decryptSubject h A k e = .ok x) {as' : List Env} (hasc : AscDigests as') (hne : as' ≠ []) :
    ∃ x', decryptSubject h A k (AW.rebuild h e.subject as') = .ok x' ∧
      x'.digest = (AW.rebuild h e.subject as').digest ∧ x'.assertions = as' := by
  obtain ⟨m, d0, pt, rs, hs, hd, ho, hdec, _⟩ := decryptSubject_ok h A hx
  have hw : m.optDigest = some d0 := by
    have := hi.subject.1
    rwa [hs] at this
  have hrs : rs.digest = d0 := Option.some.inj (ho.symm.trans hw)
  rw [hs]
  refine ⟨_, decryptSubject_rebuild_of h A hd hw hdec hrs hasc, ?_,
    AW.rebuild_assertions h (Or.inr hne)⟩
  rw [AW.rebuild_ne hne, AW.rebuild_ne hne, AW.nodeOf, AW.nodeOf, hrs]
  rfl

end

/-- a compressed element whose data is longer than its declared size: it satisfies `Inv`
(which says nothing about the fields of `Compressed`), and the decoder refuses it -/
def badComp : Env := .compressed ⟨0, 0, [1]⟩ ⟨0⟩

/-- the witness for the remark at `RoundTrips` (Lemmas/Laws.lean) -/
theorem not_forall_inv_roundTrips (h : Hash) : ¬ ∀ e, Inv h e → RoundTrips h e := by
  intro H
  have h1 : EncShape badComp := ((decode_sat h _).of_ok (H badComp ⟨trivial, by simp [badComp, Digest.Valid]⟩)).2.2
  exact absurd h1.2.2 (by decide)

section
variable (h : Hash) (Z : Deflate)

theorem compress_of_plain {e : Env} (hc : e.isCompressed = false) (he : e.isEncrypted = false)
    (hl : e.isElided = false) :
    compress Z e = .ok (.compressed (compressedOf Z (encode e)) e.digest) := by
  cases e with
  | compressed c d => cases hc
  | encrypted m d => cases he
  | elided d => cases hl
  | _ => rfl

theorem uncompress_compressedOf {Z : Deflate} (L : DeflateLaws Z) {e : Env} (hrt : RoundTrips h e) :
    uncompress h Z (.compressed (compressedOf Z (encode e)) e.digest) = .ok e := by
  unfold uncompress
  simp only [uncompressMsg_compressedOf L]
  rw [RoundTrips] at hrt
  simp only [hrt, bne_self_eq_false, Bool.false_eq_true, if_false]

theorem uncompress_compressed (c : CompMsg) (d : Digest) :
    uncompress h Z (.compressed c d) =
      match uncompressMsg Z c with
      | none => .err "dep:uncompress-failed"
      | some data =>
        (decode h data).bind fun r => if r.digest != d then .err "InvalidDigest" else .ok r := by
  unfold uncompress
  dsimp only
  cases uncompressMsg Z c with
  | none => rfl
  | some data =>
    dsimp only
    cases decode h data <;> rfl

theorem uncompress_ok {e z : Env} (hr : uncompress h Z e = .ok z) :
    ∃ c d data, e = .compressed c d ∧ uncompressMsg Z c = some data ∧ decode h data = .ok z ∧
      z.digest = d := by
  cases e with
  | compressed c d =>
    rw [uncompress_compressed] at hr
    cases hm : uncompressMsg Z c with
    | none => rw [hm] at hr; cases hr
    | some data =>
      rw [hm] at hr
      obtain ⟨r, hdec, hr⟩ := Res.bind_eq_ok.1 hr
      split at hr
      · cases hr
      · rename_i hne
        cases hr
        exact ⟨c, d, data, rfl, hm, hdec, by simpa using hne⟩
  | _ => cases hr

/-- the decoder never panics, and `uncompress` has no panic site of its own -/
theorem uncompress_ne_panic (e : Env) (s : String) : uncompress h Z e ≠ .panic s := by
  cases e with
  | compressed c d =>
    rw [uncompress_compressed]
    cases uncompressMsg Z c with
    | none => nofun
    | some data =>
      exact Res.bind_ne_panic (decode_sat h data).ne_panic (fun r _ s => by split <;> nofun) s
  | _ => nofun

/-- the decoder never panics and a canonical node has an assertion -/
theorem uncompressSubject_ne_panic {e : Env} (hc : Canon e) (s : String) :
    uncompressSubject h Z e ≠ .panic s := by
  rw [uncompressSubject_eq]
  split
  · exact Res.bind_ne_panic (uncompress_ne_panic h Z _) (fun x _ => withSubject_ne_panic h hc x) s
  · nofun

end

namespace Ex
open ToyDeps

def lf : Env := newLeaf toyHash (.text [0x61])
def kv : Env := newKnownValue toyHash 1
def asr : Env := newAssertion toyHash kv lf
/-- `"a" [ 1: "a" ]` -/
def nd : Env := .node lf [asr] (toyHash.ofDigests [lf.digest, asr.digest])
def asr2 : Env := newAssertion toyHash kv kv
/-- a node whose subject is a node (possible after decoding) -/
def nd2 : Env := .node nd [asr2] (toyHash.ofDigests [nd.digest, asr2.digest])

theorem lf_inv : Inv toyHash lf := Inv.newLeaf ..

theorem nd_inv : Inv toyHash nd :=
  AW.inv_single lf_inv ((Inv.newKnownValue ..).newAssertion lf_inv) rfl

theorem nd2_inv : Inv toyHash nd2 :=
  AW.inv_single nd_inv ((Inv.newKnownValue ..).newAssertion (Inv.newKnownValue ..)) rfl

theorem lf_rt : RoundTrips toyHash lf := by rfl
theorem wrap_lf_rt : RoundTrips toyHash (wrap toyHash lf) := by rfl

/- not `by rfl` like the two above: decoding a node ends in `newNode`, which sorts the assertions
(`sortByDigest`, that is `List.mergeSort`, defined by well-founded recursion), and that does not
evaluate -/
theorem nd_rt : RoundTrips toyHash nd :=
  decode_encode_of toyHash nd nd_inv.1 nd_inv.2 ⟨trivial, ⟨trivial, trivial⟩, trivial⟩
    (by simp [nd, lf, kv, asr, newLeaf, newKnownValue, newAssertion, Encodable, EncodableList, Cbor.Valid,
      Cbor.utf8Valid])
end Ex

end Obs
end EnvVerif
