/-
  Lemmas/Res.lean — outcomes: computation rules and inversion of `Res.bind`, the closure rules
  of "not a panic", the predicate `Res.Sat`, folds of fallible steps.
-/
import EnvVerif.Model.Basic
namespace EnvVerif.Res
variable {α β γ : Type}

/- Model/Basic.lean has these for `>>=`; the model writes `.bind`. -/
@[simp] theorem ok_bind {α β : Type} (x : α) (f : α → Res β) : (Res.ok x).bind f = f x := rfl
@[simp] theorem err_bind (e : String) (f : α → Res β) : (Res.err e).bind f = .err e := rfl
@[simp] theorem panic_bind (s : String) (f : α → Res β) : (Res.panic s).bind f = .panic s := rfl

theorem bind_eq_ok {r : Res α} {f : α → Res β} {y : β} :
    r.bind f = .ok y ↔ ∃ x, r = .ok x ∧ f x = .ok y := by
  cases r <;> simp

theorem bind_eq_err {r : Res α} {f : α → Res β} {e : String} :
    r.bind f = .err e ↔ r = .err e ∨ ∃ x, r = .ok x ∧ f x = .err e := by
  cases r <;> simp

theorem bind_eq_panic {r : Res α} {f : α → Res β} {s : String} :
    r.bind f = .panic s ↔ r = .panic s ∨ ∃ x, r = .ok x ∧ f x = .panic s := by
  cases r <;> simp

theorem bind_eq_panic_iff {r : Res α} {f : α → Res β} (hf : ∀ x s, f x ≠ .panic s) {s : String} :
    r.bind f = .panic s ↔ r = .panic s := by
  cases r <;> simp [hf]

theorem bind_ne_err {r : Res α} {f : α → Res β} (hr : ∀ x, r ≠ .err x)
    (hf : ∀ a x, f a ≠ .err x) : ∀ x, r.bind f ≠ .err x := by
  cases r with
  | ok a => exact hf a
  | err y => exact absurd rfl (hr y)
  | panic y => nofun

theorem ite_panic_ne_err {c : Prop} [Decidable c] {s : String} {r : Res α}
    (hr : ∀ x, r ≠ .err x) : ∀ x, (if c then .panic s else r) ≠ .err x := by
  split
  · nofun
  · exact hr

theorem ite_panic_eq_ok {c : Prop} [Decidable c] {s : String} {r : Res α} {y : α} :
    (if c then .panic s else r) = .ok y ↔ ¬ c ∧ r = .ok y := by
  split <;> simp [*]

theorem isOk_iff {r : Res α} : r.isOk = true ↔ ∃ x, r = .ok x := by
  cases r <;> simp [isOk]

theorem ok_unique {r : Res α} {a b : α} (ha : r = .ok a) (hb : r = .ok b) : b = a :=
  Res.ok.inj (hb.symm.trans ha)

/-- the shape of the satisfiability examples -/
theorem exists_ok_and {r : Res α} {P : α → Prop} (hok : ∃ x, r = .ok x)
    (hP : ∀ {x}, r = .ok x → P x) : ∃ x, r = .ok x ∧ P x :=
  let ⟨x, hx⟩ := hok; ⟨x, hx, hP hx⟩

/-! ### not a panic: `∀ s, r ≠ .panic s`

`NP.NoPanic r` and `ExprL.NoPanic r` unfold to this, so the rules serve both as they stand. -/

def _root_.EnvVerif.ExprL.NoPanic {α} (r : Res α) : Prop := ∀ s, r ≠ .panic s

theorem ok_ne_panic (x : α) (s : String) : Res.ok x ≠ .panic s := nofun
theorem err_ne_panic (m s : String) : (Res.err m : Res α) ≠ .panic s := nofun

theorem ne_panic_of_isOk {r : Res α} (hr : ∃ x, r = .ok x) (s : String) : r ≠ .panic s := by
  obtain ⟨x, rfl⟩ := hr; nofun

theorem bind_ne_panic {r : Res α} {f : α → Res β} (hr : ∀ s, r ≠ .panic s)
    (hf : ∀ x, r = .ok x → ∀ s, f x ≠ .panic s) : ∀ s, r.bind f ≠ .panic s := by
  cases r with
  | ok x => exact hf x rfl
  | err m => exact err_ne_panic m
  | panic s => exact absurd rfl (hr s)

theorem err_of_ne_panic {r : Res α} (hp : ∀ s, r ≠ .panic s) (hn : ∀ x, r ≠ .ok x) :
    ∃ m, r = .err m := by
  cases r with
  | ok x => exact absurd rfl (hn x)
  | err m => exact ⟨m, rfl⟩
  | panic s => exact absurd rfl (hp s)

/-- "not a panic" and "what is returned satisfies `P`" in one, for inductions that need both
at once -/
def Sat (P : α → Prop) : Res α → Prop
  | .ok x => P x
  | .err _ => True
  | .panic _ => False

theorem Sat.bind {P : α → Prop} {Q : β → Prop} {r : Res α} {f : α → Res β} (hr : r.Sat P)
    (hf : ∀ x, r = .ok x → P x → (f x).Sat Q) : (r.bind f).Sat Q := by
  cases r with
  | ok x => exact hf x rfl hr
  | err _ => trivial
  | panic _ => exact hr

/-- a step that cannot panic and whose value is not looked at -/
theorem bind_sat {Q : β → Prop} {r : Res α} {f : α → Res β} (hr : ∀ s, r ≠ .panic s)
    (hf : ∀ x, (f x).Sat Q) : (r.bind f).Sat Q := by
  cases r with
  | ok x => exact hf x
  | err _ => trivial
  | panic s => exact hr s rfl

theorem Sat.imp {P Q : α → Prop} {r : Res α} (hr : r.Sat P) (hpq : ∀ x, P x → Q x) : r.Sat Q := by
  cases r with
  | ok x => exact hpq x hr
  | err _ => trivial
  | panic _ => exact hr

theorem Sat.of_ok {P : α → Prop} {r : Res α} {x : α} (hr : r.Sat P) (hx : r = .ok x) : P x := by
  subst hx; exact hr

theorem Sat.ne_panic {P : α → Prop} {r : Res α} (hr : r.Sat P) (s : String) : r ≠ .panic s := by
  rintro rfl; exact hr

theorem Sat.err_of_not_ok {P : α → Prop} {r : Res α} (hr : r.Sat P) (hno : ∀ x, r ≠ .ok x) :
    ∃ msg, r = .err msg :=
  err_of_ne_panic hr.ne_panic hno

/-! folds `l.foldl (fun acc a => acc.bind fun x => step x a) init` -/

theorem foldl_bind_init (step : β → α → Res β) (l : List α) (init : Res β) :
    l.foldl (fun acc a => acc.bind fun x => step x a) init =
      init.bind fun x => l.foldl (fun acc a => acc.bind fun x => step x a) (.ok x) := by
  cases init with
  | ok x => rfl
  | _ => induction l with
    | nil => rfl
    | cons a l ih => exact ih

theorem foldl_bind_cons (step : β → α → Res β) (a : α) (l : List α) (b : β) :
    (a :: l).foldl (fun acc a => acc.bind fun x => step x a) (.ok b) =
      (step b a).bind fun x => l.foldl (fun acc a => acc.bind fun x => step x a) (.ok x) := by
  rw [List.foldl_cons, foldl_bind_init]; rfl

theorem foldl_bind_ne_panic (step : β → α → Res β) (hstep : ∀ x a s, step x a ≠ .panic s) :
    ∀ (as : List α) (init : Res β), (∀ s, init ≠ .panic s) →
      ∀ s, as.foldl (fun acc a => acc.bind fun x => step x a) init ≠ .panic s
  | [], _, hi => hi
  | a :: as, _, hi => foldl_bind_ne_panic step hstep as _ (bind_ne_panic hi fun x _ => hstep x a)

theorem foldl_bind_inv {P : β → Prop} {Q : α → Prop} (step : β → α → Res β)
    (hstep : ∀ x a r, P x → Q a → step x a = .ok r → P r) :
    ∀ (l : List α) (b r : β), P b → (∀ a ∈ l, Q a) →
      l.foldl (fun acc a => acc.bind fun x => step x a) (Res.ok b) = Res.ok r → P r
  | [], b, r, hb, _, hr => by cases hr; exact hb
  | a :: l, b, r, hb, hq, hr => by
    rw [foldl_bind_cons] at hr
    obtain ⟨x, hx, hr⟩ := bind_eq_ok.1 hr
    exact foldl_bind_inv step hstep l x r (hstep b a x hb (hq a (List.mem_cons_self ..)) hx)
      (fun a ha => hq a (List.mem_cons_of_mem _ ha)) hr

end EnvVerif.Res
