/-
  Lemmas/Paths.lean — positions inside an envelope: `Step`, `Path`, `Env.child`, `Env.at`; `Env.mapKids`, the
  same shell over other children.
-/
import EnvVerif.Lemmas.Basic
namespace EnvVerif
open Env

inductive Step where
  | subj                    -- node → subject
  | assertion (i : Nat)     -- node → i-th assertion (in stored order)
  | pred                    -- assertion → predicate
  | obj                     -- assertion → object
  | inner                   -- wrapped → inner envelope
  deriving DecidableEq, Repr, Inhabited

/-- a position: the steps from the root -/
abbrev Path := List Step

def Env.child : Env → Step → Option Env
  | .node s _ _, .subj => some s
  | .node _ as _, .assertion i => as[i]?
  | .assertion p _ _, .pred => some p
  | .assertion _ o _, .obj => some o
  | .wrapped e _, .inner => some e
  | _, _ => none

theorem Env.mem_children_iff {e c : Env} : c ∈ e.children ↔ ∃ st, e.child st = some c := by
  constructor
  · intro hc
    cases e <;> simp only [Env.children, List.mem_cons, List.not_mem_nil, or_false] at hc
    · rcases hc with rfl | hc
      · exact ⟨.subj, rfl⟩
      · obtain ⟨i, hi, rfl⟩ := List.getElem_of_mem hc
        exact ⟨.assertion i, List.getElem?_eq_getElem hi⟩
    · exact ⟨.inner, hc ▸ rfl⟩
    · rcases hc with rfl | rfl
      · exact ⟨.pred, rfl⟩
      · exact ⟨.obj, rfl⟩
  · rintro ⟨st, hc⟩
    cases e <;> cases st <;> simp only [Env.child, reduceCtorEq, Option.some.injEq] at hc
    · exact hc ▸ List.mem_cons_self
    · exact List.mem_cons_of_mem _ (List.mem_of_getElem? hc)
    · exact hc ▸ List.mem_cons_self
    · exact hc ▸ List.mem_cons_self
    · exact hc ▸ List.mem_cons_of_mem _ List.mem_cons_self

theorem child_none_of_atom {e : Env} (hn : e.isInternal = false) (st : Step) : e.child st = none := by
  cases e <;> first | (cases st <;> rfl) | cases hn

def Env.mapKids (g : Env → Env) : Env → Env
  | .node s as d => .node (g s) (as.map g) d
  | .wrapped e d => .wrapped (g e) d
  | .assertion p o d => .assertion (g p) (g o) d
  | e => e

theorem Env.mapKids_digest (g : Env → Env) (e : Env) : (e.mapKids g).digest = e.digest := by
  cases e <;> rfl

theorem Env.mapKids_child (g : Env → Env) (e : Env) (s : Step) :
    (e.mapKids g).child s = (e.child s).map g := by
  cases e <;> cases s <;> first | rfl | exact List.getElem?_map ..

theorem Env.mapKids_children (g : Env → Env) (e : Env) :
    (e.mapKids g).children = e.children.map g := by
  cases e <;> rfl

theorem Env.mapKids_eq_self_of_children {g : Env → Env} {e : Env}
    (hc : e.children.map g = e.children) : e.mapKids g = e := by
  cases e with
  | node s as d => injection hc with h1 h2; rw [Env.mapKids, h1, h2]
  | wrapped x d => injection hc with h1; rw [Env.mapKids, h1]
  | assertion p o d => injection hc with h1 h2; injection h2 with h2; rw [Env.mapKids, h1, h2]
  | _ => rfl

def Env.at : Env → Path → Option Env
  | e, [] => some e
  | e, s :: p =>
    match e.child s with
    | some c => Env.at c p
    | none => none

@[simp] theorem Env.at_nil (e : Env) : e.at [] = some e := rfl

theorem Env.at_cons (e : Env) (s : Step) (p : Path) :
    e.at (s :: p) = (e.child s).bind (fun c => c.at p) := by
  simp only [Env.at]; cases e.child s <;> rfl

theorem Env.at_cons_some {e x : Env} {s : Step} {p : Path} (hx : e.at (s :: p) = some x) :
    ∃ c, e.child s = some c ∧ c.at p = some x := by
  rwa [Env.at_cons, Option.bind_eq_some_iff] at hx

theorem Env.at_cons_of_child {e c : Env} {s : Step} (hc : e.child s = some c) (p : Path) :
    e.at (s :: p) = c.at p := by
  simp [Env.at_cons, hc]

theorem Env.at_append (e : Env) (p q : Path) :
    e.at (p ++ q) = (e.at p).bind (fun c => c.at q) := by
  induction p generalizing e with
  | nil => simp
  | cons s p ih =>
    simp only [List.cons_append, Env.at_cons]
    cases e.child s with
    | none => rfl
    | some c => simp [ih]

theorem Env.at_cons_none_of_isObscured {e : Env} (ho : e.isObscured = true) (s : Step) (p : Path) :
    e.at (s :: p) = none := by
  have hn : e.isInternal = false := by cases e <;> first | rfl | cases ho
  rw [Env.at_cons, child_none_of_atom hn s]
  rfl

theorem elements_child {e c : Env} {s : Step} (hc : e.child s = some c) :
    ∀ x ∈ elements c, x ∈ elements e := by
  intro x hx
  rw [elements_eq e]
  exact List.mem_cons_of_mem _ (List.mem_flatMap.2 ⟨c, Env.mem_children_iff.2 ⟨s, hc⟩, hx⟩)

theorem at_mem_elements {e x : Env} {p : Path} (hx : e.at p = some x) : x ∈ elements e := by
  induction p generalizing e with
  | nil => simp at hx; subst hx; exact self_mem_elements e
  | cons s p ih =>
    obtain ⟨c, hc, hx'⟩ := Env.at_cons_some hx
    exact elements_child hc x (ih hx')

theorem mem_elements_iff_at {x e : Env} : x ∈ elements e ↔ ∃ p, e.at p = some x := by
  refine ⟨?_, fun ⟨p, hp⟩ => at_mem_elements hp⟩
  induction e using Env.induct_kids with
  | H e ih =>
    intro hx
    rw [elements_eq, List.mem_cons, List.mem_flatMap] at hx
    rcases hx with rfl | ⟨c, hc, hxc⟩
    · exact ⟨[], rfl⟩
    · obtain ⟨st, hst⟩ := Env.mem_children_iff.1 hc
      obtain ⟨p, hp⟩ := ih c hc hxc
      exact ⟨st :: p, by rw [Env.at_cons_of_child hst]; exact hp⟩

theorem Inv.at {h : Hash} {e x : Env} {p : Path} (hi : Inv h e) (hx : e.at p = some x) : Inv h x :=
  ⟨hi.1.elements (at_mem_elements hx), hi.2.elements (at_mem_elements hx)⟩

end EnvVerif
