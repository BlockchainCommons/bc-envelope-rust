/-
  Lemmas/Lists.lean — facts about lists that mention nothing of the model.
-/
namespace List

theorem flatMap_congr_mem {α β} {l : List α} {f g : α → List β}
    (h : ∀ a ∈ l, f a = g a) : l.flatMap f = l.flatMap g := by
  rw [List.flatMap_def, List.flatMap_def, List.map_congr_left h]

theorem findSome?_unique {α β} {f : α → Option β} {l : List α} {b : β}
    (hex : ∃ a ∈ l, f a = some b) (hall : ∀ a ∈ l, ∀ q, f a = some q → q = b) :
    l.findSome? f = some b := by
  cases hf : l.findSome? f with
  | none =>
    obtain ⟨a, ha, hfa⟩ := hex
    rw [List.findSome?_eq_none_iff.1 hf a ha] at hfa
    cases hfa
  | some q =>
    obtain ⟨a, ha, hfa⟩ := List.exists_of_findSome?_eq_some hf
    rw [hall a ha q hfa]

theorem findSome?_perm_unique {α β} {f : α → Option β} {l l' : List α} (hp : l.Perm l')
    (hu : ∀ a ∈ l, ∀ b ∈ l, ∀ x y, f a = some x → f b = some y → x = y) :
    l.findSome? f = l'.findSome? f := by
  cases hf : l.findSome? f with
  | none =>
    symm
    rw [List.findSome?_eq_none_iff] at hf ⊢
    exact fun x hx => hf x (hp.mem_iff.2 hx)
  | some x =>
    obtain ⟨a, ha, hfa⟩ := List.exists_of_findSome?_eq_some hf
    symm
    apply List.findSome?_unique ⟨a, hp.mem_iff.1 ha, hfa⟩
    intro b hb q hq
    exact (hu a ha b (hp.mem_iff.2 hb) x q hfa hq).symm

theorem perm_eq_of_length_le_one {α} {l m : List α} (hp : l.Perm m) (hm : m.length ≤ 1) :
    l = m := by
  match m, hm with
  | [], _ => exact List.perm_nil.1 hp
  | [_], _ => exact List.perm_singleton.1 hp

theorem Pairwise.eq_of_mem_iff {α} {R : α → α → Prop} {l₁ l₂ : List α} (hasymm : ∀ a b, R a b → ¬ R b a)
    (h₁ : l₁.Pairwise R) (h₂ : l₂.Pairwise R) (hm : ∀ x, x ∈ l₁ ↔ x ∈ l₂) : l₁ = l₂ :=
  have nodup {l : List α} (h : l.Pairwise R) : l.Nodup :=
    h.imp fun hab he => by subst he; exact hasymm _ _ hab hab
  ((List.perm_ext_iff_of_nodup (nodup h₁) (nodup h₂)).2 hm).eq_of_pairwise
    (fun a b _ _ hab hba => absurd hba (hasymm a b hab)) h₁ h₂

/- the one proof here that names an internal of core (`splitInTwo`): the first to look at when the
toolchain moves -/
theorem mergeSort_pair {α} (le : α → α → Bool) (a b : α) :
    [a, b].mergeSort le = if le a b then [a, b] else [b, a] := by
  cases hab : le a b <;> simp [List.mergeSort, List.MergeSort.Internal.splitInTwo, hab]

theorem eq_of_map_eq_map {α β} {f : α → β} : ∀ {as bs : List α}, as.map f = bs.map f →
    (∀ a ∈ as, ∀ b ∈ bs, f a = f b → a = b) → as = bs
  | [], [], _, _ => rfl
  | [], _ :: _, he, _ => nomatch he
  | _ :: _, [], he, _ => nomatch he
  | a :: as, b :: bs, he, hi => by
    injection he with h1 h2
    rw [hi a (List.mem_cons_self ..) b (List.mem_cons_self ..) h1,
      List.eq_of_map_eq_map h2 fun x hx y hy =>
        hi x (List.mem_cons_of_mem _ hx) y (List.mem_cons_of_mem _ hy)]

end List

namespace EnvVerif

/-- core has no `List.Forall₂` -/
inductive Forall₂ {α β : Type} (R : α → β → Prop) : List α → List β → Prop where
  | nil : Forall₂ R [] []
  | cons {a b as bs} : R a b → Forall₂ R as bs → Forall₂ R (a :: as) (b :: bs)

namespace Forall₂
variable {α β : Type} {R : α → β → Prop}

theorem getElem?_left {as : List α} {bs : List β} (hf : Forall₂ R as bs) {i : Nat} {a : α}
    (ha : as[i]? = some a) : ∃ b, bs[i]? = some b ∧ R a b := by
  induction hf generalizing i with
  | nil => cases ha
  | cons h1 _ ih =>
    cases i with
    | zero =>
      rw [List.getElem?_cons_zero, Option.some.injEq] at ha
      exact ⟨_, List.getElem?_cons_zero, ha ▸ h1⟩
    | succ i =>
      rw [List.getElem?_cons_succ] at ha ⊢
      exact ih ha

theorem forall_mem_right {as : List α} {bs : List β} (hf : Forall₂ R as bs) :
    ∀ b ∈ bs, ∃ a ∈ as, R a b := by
  induction hf with
  | nil => exact nofun
  | cons h1 _ ih =>
    refine List.forall_mem_cons.2 ⟨⟨_, List.mem_cons_self, h1⟩, fun b hb => ?_⟩
    obtain ⟨a, ha, hr⟩ := ih b hb
    exact ⟨a, List.mem_cons_of_mem _ ha, hr⟩

theorem imp {S : α → β → Prop} {as : List α} {bs : List β} (hf : Forall₂ R as bs)
    (hi : ∀ a b, a ∈ as → R a b → S a b) : Forall₂ S as bs := by
  induction hf with
  | nil => exact .nil
  | cons h1 _ ih =>
    exact .cons (hi _ _ (by simp) h1) (ih (fun a b ha hr => hi a b (by simp [ha]) hr))

theorem map_eq {γ : Type} {f : α → γ} {g : β → γ} {as : List α} {bs : List β}
    (hf : Forall₂ R as bs) (hi : ∀ a b, R a b → g b = f a) : bs.map g = as.map f := by
  induction hf with
  | nil => rfl
  | cons h1 _ ih => rw [List.map_cons, List.map_cons, hi _ _ h1, ih]

theorem right_unique {as : List α} {bs bs' : List β} (hf : Forall₂ R as bs) (hf' : Forall₂ R as bs')
    (hu : ∀ a b b', R a b → R a b' → b = b') : bs = bs' := by
  induction hf generalizing bs' with
  | nil => cases hf'; rfl
  | cons h1 _ ih =>
    cases hf' with
    | cons h1' h2' => rw [hu _ _ _ h1 h1', ih h2']

end Forall₂

end EnvVerif
