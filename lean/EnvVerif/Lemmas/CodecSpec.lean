/-
  Lemmas/CodecSpec.lean — the predicates in which the codec properties C05 / C06 are stated:
  `EncShape`, `Encodable`, and the one alias the decoder tolerates, the deprecated leaf tag `#6.24` read
  as `#6.201` (`legacyNorm`, `hasLegacyLeaf` on trees; `legacyNormBytes`, `NoLegacyLeaf` on bytes).
-/
import EnvVerif.Model.Deps
import EnvVerif.Lemmas.CodecLaws
namespace EnvVerif

mutual
/-- the shape the decoder demands (`envOfCbor_sat`) of encrypted elements (12-byte nonce, 16-byte tag,
non-empty `aad`) and of compressed ones (`u32` checksum, `u64` size, at most `size` bytes of data);
`encShape_encryptWithDigest` and `encShape_compressedOf` establish it, given the sizes of nonce, tag,
CRC and length -/
def EncShape : Env → Prop
  | .node s as _ => EncShape s ∧ EncShapeList as
  | .leaf _ _ => True
  | .wrapped e _ => EncShape e
  | .assertion p o _ => EncShape p ∧ EncShape o
  | .elided _ => True
  | .knownValue _ _ => True
  | .encrypted m _ => m.nonce.length = 12 ∧ m.auth.length = 16 ∧ m.aad ≠ []
  | .compressed c _ => c.checksum < 2 ^ 32 ∧ c.size < 2 ^ 64 ∧ c.data.length ≤ c.size
def EncShapeList : List Env → Prop
  | [] => True
  | a :: as => EncShape a ∧ EncShapeList as
end

mutual
/-- rewrites the deprecated leaf tag `#6.24` to `#6.201` at envelope leaf positions only: the traversal
follows the envelope grammar (array elements, map keys and values, the content of tag 200) and does
not descend into leaf content, nor into encrypted or compressed payloads -/
def legacyNorm : Cbor → Cbor
  | .tagged t item =>
    if t == TAG_ENCODED_CBOR then .tagged TAG_LEAF item
    else if t == TAG_ENVELOPE then .tagged t (legacyNorm item)
    else .tagged t item
  | .array xs => .array (legacyNormList xs)
  | .map kvs => .map (legacyNormPairs kvs)
  | .uint n => .uint n
  | .nint n => .nint n
  | .bytes b => .bytes b
  | .text b => .text b
  | .simple v => .simple v
  | .float b => .float b
def legacyNormList : List Cbor → List Cbor
  | [] => []
  | x :: xs => legacyNorm x :: legacyNormList xs
def legacyNormPairs : List (Cbor × Cbor) → List (Cbor × Cbor)
  | [] => []
  | (k, v) :: kvs => (legacyNorm k, legacyNorm v) :: legacyNormPairs kvs
end

mutual
/-- does a `#6.24` leaf occur at an envelope position? -/
def hasLegacyLeaf : Cbor → Bool
  | .tagged t item =>
    if t == TAG_ENCODED_CBOR then true
    else if t == TAG_ENVELOPE then hasLegacyLeaf item
    else false
  | .array xs => hasLegacyLeafList xs
  | .map kvs => hasLegacyLeafPairs kvs
  | _ => false
def hasLegacyLeafList : List Cbor → Bool
  | [] => false
  | x :: xs => hasLegacyLeaf x || hasLegacyLeafList xs
def hasLegacyLeafPairs : List (Cbor × Cbor) → Bool
  | [] => false
  | (k, v) :: kvs => hasLegacyLeaf k || hasLegacyLeaf v || hasLegacyLeafPairs kvs
end

/-- `legacyNorm` of the tree these bytes decode to, encoded (bytes that are not dCBOR are left alone).
Where the dCBOR layer accepts a non-canonical form (`fa 4f 00 00 01`) these are other bytes than `b`
even without an alias. -/
def legacyNormBytes (b : Bytes) : Bytes :=
  match Cbor.dec b with
  | .ok c => (legacyNorm c).enc
  | .error _ => b

def NoLegacyLeaf (b : Bytes) : Prop := ∀ c, Cbor.dec b = .ok c → hasLegacyLeaf c = false

mutual
/-- the envelope fits the dCBOR data model; for what `EncShape` bounds (nonce, tag, checksum, size,
compressed data) only together with it: `cborOf_valid` -/
def Encodable : Env → Prop
  | .node s as _ => Encodable s ∧ EncodableList as ∧ as.length + 1 < 2 ^ 64
  | .leaf c _ => c.Valid
  | .wrapped e _ => Encodable e
  | .assertion p o _ => Encodable p ∧ Encodable o
  | .elided _ => True
  | .knownValue v _ => v < 2 ^ 64
  | .encrypted m _ => m.ciphertext.length < 2 ^ 64 ∧ m.aad.length < 2 ^ 64
  | .compressed _ _ => True
def EncodableList : List Env → Prop
  | [] => True
  | a :: as => Encodable a ∧ EncodableList as
end

theorem EncShapeList_iff (as : List Env) : EncShapeList as ↔ ∀ a ∈ as, EncShape a := by
  induction as with
  | nil => simp [EncShapeList]
  | cons a as ih => simp [EncShapeList, ih]

theorem EncShape_node (s : Env) (as : List Env) (d : Digest) :
    EncShape (.node s as d) ↔ EncShape s ∧ ∀ a ∈ as, EncShape a := by
  rw [← EncShapeList_iff]; rfl

/-- `Compressed::from_uncompressed_data` with a 32-bit CRC and a `u64` length -/
theorem encShape_compressedOf (Z : Deflate) (data : Bytes) (d : Digest)
    (hc : Z.crc data < 2 ^ 32) (hl : data.length < 2 ^ 64) :
    EncShape (.compressed (compressedOf Z data) d) := by
  fun_cases compressedOf Z data
  case case1 hlt =>
    simp only [Bool.and_eq_true, decide_eq_true_eq] at hlt
    exact ⟨hc, hl, Nat.le_of_lt hlt.2⟩
  case case2 => exact ⟨hc, hl, Nat.le_refl _⟩

/-- `SymmetricKey::encrypt_with_digest` with a 12-byte nonce and an AEAD whose tags are 16 bytes -/
theorem encShape_encryptWithDigest (A : Aead) (key nonce plaintext : Bytes) (d : Digest)
    (hn : nonce.length = 12) (hA : ∀ k n p a, (A.enc k n p a).2.length = 16) :
    EncShape (.encrypted (encryptWithDigest A key nonce plaintext d) d) := by
  simp only [EncShape, encryptWithDigest, hn, hA, true_and, digestCbor, Cbor.enc]
  exact fun h0 => List.ne_nil_of_length_pos (Cbor.head_length_pos _ _) (List.append_eq_nil_iff.mp h0).1

theorem EncodableList_iff (as : List Env) : EncodableList as ↔ ∀ a ∈ as, Encodable a := by
  induction as with
  | nil => simp [EncodableList]
  | cons a as ih => simp [EncodableList, ih]

theorem Encodable_node (s : Env) (as : List Env) (d : Digest) :
    Encodable (.node s as d) ↔ Encodable s ∧ (∀ a ∈ as, Encodable a) ∧ as.length + 1 < 2 ^ 64 := by
  rw [← EncodableList_iff]; rfl

theorem legacyNorm_tagged (t : Nat) (item : Cbor) (h1 : t ≠ TAG_ENCODED_CBOR) (h2 : t ≠ TAG_ENVELOPE) :
    legacyNorm (.tagged t item) = .tagged t item := by
  simp [legacyNorm, h1, h2]

mutual
theorem legacyNorm_of_no_legacy : (c : Cbor) → hasLegacyLeaf c = false → legacyNorm c = c
  | .tagged t item, hc => by
    by_cases h1 : t = TAG_ENCODED_CBOR
    · simp [hasLegacyLeaf, h1] at hc
    by_cases h2 : t = TAG_ENVELOPE
    · subst h2
      have hc : hasLegacyLeaf item = false := by simpa [hasLegacyLeaf, h1] using hc
      simp [legacyNorm, h1, legacyNorm_of_no_legacy item hc]
    · exact legacyNorm_tagged t item h1 h2
  | .array xs, hc => by
    simp only [hasLegacyLeaf] at hc
    simp only [legacyNorm, legacyNormList_of_no_legacy xs hc]
  | .map kvs, hc => by
    simp only [hasLegacyLeaf] at hc
    simp only [legacyNorm, legacyNormPairs_of_no_legacy kvs hc]
  | .uint _, _ | .nint _, _ | .bytes _, _ | .text _, _ | .simple _, _ | .float _, _ => by
    simp only [legacyNorm]
theorem legacyNormList_of_no_legacy :
    (cs : List Cbor) → hasLegacyLeafList cs = false → legacyNormList cs = cs
  | [], _ => by simp only [legacyNormList]
  | x :: xs, hc => by
    simp only [hasLegacyLeafList, Bool.or_eq_false_iff] at hc
    simp only [legacyNormList, legacyNorm_of_no_legacy x hc.1, legacyNormList_of_no_legacy xs hc.2]
theorem legacyNormPairs_of_no_legacy :
    (kvs : List (Cbor × Cbor)) → hasLegacyLeafPairs kvs = false → legacyNormPairs kvs = kvs
  | [], _ => by simp only [legacyNormPairs]
  | (k, v) :: kvs, hc => by
    simp only [hasLegacyLeafPairs, Bool.or_eq_false_iff] at hc
    simp only [legacyNormPairs, legacyNorm_of_no_legacy k hc.1.1, legacyNorm_of_no_legacy v hc.1.2,
      legacyNormPairs_of_no_legacy kvs hc.2]
end

theorem legacyNormBytes_of_no_legacy {b : Bytes} (L : EncDecAt b) (hb : NoLegacyLeaf b) :
    legacyNormBytes b = b := by
  fun_cases legacyNormBytes b
  case case1 c hc =>
    rw [legacyNorm_of_no_legacy c (hb c hc)]
    exact (L c hc).1
  case case2 => rfl

theorem noLegacyLeaf_enc {c : Cbor} (hv : c.Valid) (hl : hasLegacyLeaf c = false) :
    NoLegacyLeaf c.enc := fun c' hc => by
  cases (Cbor.decEncLaw c hv).symm.trans hc
  exact hl

end EnvVerif
