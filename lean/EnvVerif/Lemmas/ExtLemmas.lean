/-
  Lemmas/ExtLemmas.lean — salts, types and attachments (C17, C19).  `addSaltInstance`,
  `addAssertionSalted`, `addType` and `addAttachment` of Model/Ext.lean are each
  `add_assertion_envelope` of one named element (`saltAssertion`, `saltedElement`,
  `isAAssertion`, `attachmentOf`); the rest is what the queries read from such elements.
-/
import EnvVerif.Model.Ext
import EnvVerif.Lemmas.WalkLemmas
import EnvVerif.Lemmas.CodecLaws
namespace EnvVerif

namespace ExtL
open Env AW ExprL  -- `ExprL` for `ExprL.NoPanic` only, which Lemmas/Res.lean declares

theorem matchesPred_assertion (q o : Env) (d : Digest) (p : Env) :
    matchesPred (.assertion q o d) p = (q.digest == p.digest) := rfl

theorem matchesPred_node_assertion (q o : Env) (d : Digest) (as : List Env) (d' : Digest) (p : Env) :
    matchesPred (.node (.assertion q o d) as d') p = (q.digest == p.digest) := rfl

theorem matchesPred_newAssertion (h : Hash) (q o p : Env) :
    matchesPred (newAssertion h q o) p = (q.digest == p.digest) := rfl

theorem filter_sort_nil {f : Env → Bool} {l : List Env} (hx : l.filter f = []) :
    (sortByDigest l).filter f = [] :=
  List.perm_nil.1 (hx ▸ (sortByDigest_perm l).filter f)

theorem digInj_of_pairwise {l : List Env} (hp : l.Pairwise (fun a b => a.digest ≠ b.digest)) :
    DigInj l :=
  .of_pairwise hp

/-- the `'salt': Salt(bytes)` assertion -/
def saltAssertion (h : Hash) (salt : Bytes) : Env :=
  newAssertion h (newKnownValue h KV_SALT) (newLeaf h (saltCbor salt))

/-- an assertion decorated with one salt assertion: what `assertion.add_salt()` builds -/
def saltedAssertion (h : Hash) (p o : Env) (s : Bytes) : Env :=
  .node (newAssertion h p o) [saltAssertion h s]
    (h.ofDigests [(newAssertion h p o).digest, (saltAssertion h s).digest])

/-- the element that `add_assertion_salted(p, o, salted)` adds -/
def saltedElement (h : Hash) (p o : Env) : Option Bytes → Env
  | some s => saltedAssertion h p o s
  | none => newAssertion h p o

theorem addSaltInstance_eq (h : Hash) (e : Env) (salt : Bytes) :
    addSaltInstance h e salt = addAssertionEnvelope h e (saltAssertion h salt) :=
  addAssertionUnwrap_eq h e _ _

theorem addSaltInstance_assertion (h : Hash) (p o : Env) (s : Bytes) :
    addSaltInstance h (newAssertion h p o) s = .ok (saltedAssertion h p o s) :=
  addUnwrap_bare h _ _ rfl

@[simp] theorem saltedElement_slotOk (h : Hash) (p o : Env) (s : Option Bytes) :
    (saltedElement h p o s).slotOk = true := by
  cases s <;> rfl

theorem matchesPred_saltedElement (h : Hash) (p o : Env) (s : Option Bytes) :
    matchesPred (saltedElement h p o s) p = true := by
  cases s <;> exact beq_self_eq_true _

theorem asObject_saltedElement (h : Hash) (p o : Env) (s : Option Bytes) :
    asObject (saltedElement h p o s).subject = some o := by
  cases s <;> rfl

theorem addAssertionEnvelopeSalted_none (h : Hash) (e a : Env) :
    addAssertionEnvelopeSalted h e a none = addAssertionEnvelope h e a := by
  unfold addAssertionEnvelopeSalted addAssertionEnvelope
  cases hs : a.slotOk
  · rfl
  · simp only [Bool.not_true, Bool.false_eq_true, if_false, Res.bind]
    cases e <;> rfl

theorem addAssertionEnvelopeSalted_some (h : Hash) (e : Env) {a a2 : Env} {s : Bytes}
    (hs : a.slotOk = true) (ha2 : addSaltInstance h a s = .ok a2) (hs2 : a2.slotOk = true) :
    addAssertionEnvelopeSalted h e a (some s) = addAssertionEnvelope h e a2 := by
  unfold addAssertionEnvelopeSalted addAssertionEnvelope
  simp only [hs, hs2, ha2, Bool.not_true, Bool.false_eq_true, if_false, Res.bind]
  cases e <;> rfl

theorem addAssertionEnvelopeSalted_eq (h : Hash) (e p o : Env) (salt : Option Bytes) :
    addAssertionEnvelopeSalted h e (newAssertion h p o) salt =
      addAssertionEnvelope h e (saltedElement h p o salt) := by
  cases salt with
  | none => exact addAssertionEnvelopeSalted_none h e _
  | some s => exact addAssertionEnvelopeSalted_some h e rfl (addSaltInstance_assertion h p o s) rfl

theorem addAssertionSalted_eq (h : Hash) (e p o : Env) (salt : Option Bytes) :
    addAssertionSalted h e p o salt = addAssertionEnvelope h e (saltedElement h p o salt) := by
  rw [addAssertionSalted, addAssertionEnvelopeSalted_eq, add_eq h e (saltedElement_slotOk h p o salt)]

theorem tagged_bytes_enc_inj (t : Nat) {a b : Bytes}
    (hab : (Cbor.tagged t (.bytes a)).enc = (Cbor.tagged t (.bytes b)).enc) : a = b := by
  simp only [Cbor.enc] at hab
  -- after the common tag head: `head 2 a.length ++ a` (2: byte strings), whose total length
  -- determines `a.length`, so the two heads are equal and cancel
  have h1 := List.append_cancel_left hab
  have hlen : a.length = b.length :=
    Cbor.head_append_length_inj 2 (by simpa using congrArg List.length h1)
  rw [hlen] at h1
  exact List.append_cancel_left h1

/-- the hash does not collide on the two images `a`, `b` (a fact about the hash
function at the inputs in play, never provable for an arbitrary `h`) -/
def CollFree (h : Hash) (a b : Bytes) : Prop := h.H a = h.H b → a = b

instance (h : Hash) (a b : Bytes) : Decidable (CollFree h a b) := by
  unfold CollFree; exact inferInstance

theorem collFree_of_ne {h : Hash} {a b : Bytes} (hne : h.H a ≠ h.H b) : CollFree h a b :=
  fun he => absurd he hne

/- The next three are `collFree_of_ne` with the digests folded, stated with variables: unifying
`collFree_of_ne` itself against a concrete sample makes the elaborator evaluate the hash. -/

theorem collFree_assertion {h : Hash} {p o1 o2 : Env}
    (hne : (newAssertion h p o1).digest ≠ (newAssertion h p o2).digest) :
    CollFree h (catDigests [p.digest, o1.digest]) (catDigests [p.digest, o2.digest]) :=
  collFree_of_ne hne

theorem collFree_node {h : Hash} {s : Env} {as1 as2 : List Env}
    (hne : (nodeOf h s as1).digest ≠ (nodeOf h s as2).digest) :
    CollFree h (catDigests (s.digest :: as1.map Env.digest))
      (catDigests (s.digest :: as2.map Env.digest)) :=
  collFree_of_ne hne

theorem collFree_salted {h : Hash} {p o : Env} {s1 s2 : Bytes}
    (hne : (saltedAssertion h p o s1).digest ≠ (saltedAssertion h p o s2).digest) :
    CollFree h (catDigests [(newAssertion h p o).digest, (saltAssertion h s1).digest])
      (catDigests [(newAssertion h p o).digest, (saltAssertion h s2).digest]) :=
  collFree_of_ne hne

theorem ofDigests_ne {h : Hash} {l1 l2 : List Digest} (hc : CollFree h (catDigests l1) (catDigests l2))
    (h1 : ∀ d ∈ l1, d.Valid) (h2 : ∀ d ∈ l2, d.Valid) (hne : l1 ≠ l2) :
    h.ofDigests l1 ≠ h.ofDigests l2 :=
  fun he => hne (catDigests_inj l1 l2 h1 h2 (hc he))

theorem ofDigests_pair_ne {h : Hash} {a b1 b2 : Digest} (ha : a.Valid) (h1 : b1.Valid) (h2 : b2.Valid)
    (c : CollFree h (catDigests [a, b1]) (catDigests [a, b2])) (hne : b1 ≠ b2) :
    h.ofDigests [a, b1] ≠ h.ofDigests [a, b2] :=
  ofDigests_ne c (by simp [ha, h1]) (by simp [ha, h2]) (by simpa using hne)

theorem saltAssertion_digest_ne {h : Hash} (hV : ∀ b, (h.H b).Valid) {s1 s2 : Bytes} (hne : s1 ≠ s2)
    (c1 : CollFree h (saltCbor s1).enc (saltCbor s2).enc)
    (c2 : CollFree h
      (catDigests [(newKnownValue h KV_SALT).digest, (newLeaf h (saltCbor s1)).digest])
      (catDigests [(newKnownValue h KV_SALT).digest, (newLeaf h (saltCbor s2)).digest])) :
    (saltAssertion h s1).digest ≠ (saltAssertion h s2).digest :=
  ofDigests_pair_ne (hV _) (hV _) (hV _) c2 fun he => hne (tagged_bytes_enc_inj TAG_SALT (c1 he))

theorem saltedElement_digest_valid {h : Hash} (hV : ∀ b, (h.H b).Valid) (p o : Env)
    (s : Option Bytes) : (saltedElement h p o s).digest.Valid := by
  cases s <;> exact hV _

/-- the idea: `a1.digest` (new, and different from `a2.digest`) is in the first result's digest
list and not in the second's, and the hash does not collide on the two node images (`c`) -/
theorem add_digest_ne {h : Hash} (hV : ∀ b, (h.H b).Valid) {e a1 a2 r1 r2 : Env} (hi : Inv h e)
    (hv1 : a1.digest.Valid) (hv2 : a2.digest.Valid)
    (hfresh : ∀ x ∈ e.assertions, x.digest ≠ a1.digest) (hne : a1.digest ≠ a2.digest)
    (hr1 : addAssertionEnvelope h e a1 = .ok r1) (hr2 : addAssertionEnvelope h e a2 = .ok r2)
    (c : CollFree h (catDigests (r1.subject.digest :: r1.assertions.map Env.digest))
      (catDigests (r2.subject.digest :: r2.assertions.map Env.digest))) :
    r1.digest ≠ r2.digest := by
  have hvas : ∀ x ∈ e.assertions, x.digest.Valid := fun x hx => (hi.assertions hx).digest_valid hV
  have hvs : e.subject.digest.Valid := hi.subject.digest_valid hV
  have hvn : ∀ {a r : Env}, a.digest.Valid → addAssertionEnvelope h e a = .ok r →
      ∀ d ∈ r.subject.digest :: r.assertions.map Env.digest, d.Valid := by
    intro a r hva hr d hd
    rw [add_subject hr, add_assertions hr] at hd
    rcases List.mem_cons.1 hd with hd | hd
    · rw [hd]; exact hvs
    · obtain ⟨x, hx, rfl⟩ := List.mem_map.1 hd
      rcases mem_normAdd_sub hx with hx | hx
      · exact hvas x hx
      · rw [hx]; exact hva
  rw [add_digest hi.1 hr1, add_digest hi.1 hr2]
  apply ofDigests_ne c (hvn hv1 hr1) (hvn hv2 hr2)
  intro he
  have hm1 : a1.digest ∈ r1.assertions.map Env.digest :=
    List.mem_map.2 ⟨a1, ((add_fresh hfresh hr1).2.1 a1).2 (Or.inr rfl), rfl⟩
  rw [(List.cons.inj he).2, add_assertions hr2] at hm1
  obtain ⟨x, hx, hxd⟩ := List.mem_map.1 hm1
  rcases mem_normAdd_sub hx with hx | hx
  · exact hfresh x hx hxd
  · rw [hx] at hxd; exact hne hxd.symm

theorem elide_digest (e : Env) : (elide e).digest = e.digest := by
  cases e <;> rfl

def vendorAssertion (h : Hash) (v : Bytes) : Env :=
  newAssertion h (newKnownValue h KV_VENDOR) (textLeaf h v)

def conformsToAssertion (h : Hash) (c : Bytes) : Env :=
  newAssertion h (newKnownValue h KV_CONFORMS_TO) (textLeaf h c)

def confList (h : Hash) : Option Bytes → List Env
  | none => []
  | some c => [conformsToAssertion h c]

/-- the stored assertion list of an attachment's object -/
def attachmentObjAssertions (h : Hash) (v : Bytes) : Option Bytes → List Env
  | none => [vendorAssertion h v]
  | some c => normAdd [vendorAssertion h v] (conformsToAssertion h c)

def attachmentObject (h : Hash) (payload : Env) (v : Bytes) (c : Option Bytes) : Env :=
  nodeOf h (wrap h payload) (attachmentObjAssertions h v c)

/-- the attachment assertion `'attachment': { payload } ['vendor': v, 'conformsTo': c]` -/
def attachmentOf (h : Hash) (payload : Env) (v : Bytes) (c : Option Bytes) : Env :=
  newAssertion h (newKnownValue h KV_ATTACHMENT) (attachmentObject h payload v c)

/-- the collision-freedom facts an attachment with vendor `v` and conformsTo `c` relies on -/
def AttGood (h : Hash) (v : Bytes) (c : Option Bytes) : Prop :=
  (newKnownValue h KV_VENDOR).digest ≠ (newKnownValue h KV_CONFORMS_TO).digest ∧
  ∀ c', c = some c' → (vendorAssertion h v).digest ≠ (conformsToAssertion h c').digest

theorem newAttachment_eq (h : Hash) (payload : Env) (v : Bytes) (c : Option Bytes) :
    newAttachment h payload v c = .ok (attachmentOf h payload v c) := by
  unfold newAttachment
  rw [addUnwrap_bare h _ _ (s := wrap h payload) rfl]
  cases c with
  | none => rfl
  | some c =>
    simp only [Res.ok_bind, addUnwrap_rebuild h _ _ _ (s := wrap h payload) rfl,
      rebuild_ne (normAdd_ne_nil _ _)]
    rfl

@[simp] theorem attachmentOf_slotOk (h : Hash) (payload : Env) (v : Bytes) (c : Option Bytes) :
    (attachmentOf h payload v c).slotOk = true := rfl

/-- with `AttGood` nothing is dropped -/
theorem attachmentObjAssertions_perm {h : Hash} {v : Bytes} {c : Option Bytes} (hg : AttGood h v c) :
    (attachmentObjAssertions h v c).Perm (vendorAssertion h v :: confList h c) := by
  cases c with
  | none => exact List.Perm.refl _
  | some c =>
    exact normAdd_perm (List.forall_mem_singleton.2 (hg.2 c rfl))

theorem vendor_lookup {h : Hash} {v : Bytes} {c : Option Bytes} (hg : AttGood h v c) (payload : Env) :
    assertionsWithPredicate (attachmentObject h payload v c) (newKnownValue h KV_VENDOR) =
      [vendorAssertion h v] := by
  have hc : ∀ c', matchesPred (conformsToAssertion h c') (newKnownValue h KV_VENDOR) = false :=
    fun _ => beq_eq_false_iff_ne.2 (Ne.symm hg.1)
  refine awp_of_perm (attachmentObjAssertions_perm hg) ?_ (Nat.le_refl 1)
  cases c <;> simp [confList, vendorAssertion, matchesPred_newAssertion, hc]

theorem conformsTo_lookup {h : Hash} {v : Bytes} {c : Option Bytes} (hg : AttGood h v c) (payload : Env) :
    assertionsWithPredicate (attachmentObject h payload v c) (newKnownValue h KV_CONFORMS_TO) =
      confList h c := by
  have hv : matchesPred (vendorAssertion h v) (newKnownValue h KV_CONFORMS_TO) = false :=
    beq_eq_false_iff_ne.2 hg.1
  refine awp_of_perm (attachmentObjAssertions_perm hg) ?_ (by cases c <;> simp [confList])
  cases c <;> simp [confList, hv, conformsToAssertion, matchesPred_newAssertion]

/-- `extract_object_for_predicate::<String>` as a chain of `?` -/
theorem extractTextObjectForPredicate_eq (e p : Env) :
    extractTextObjectForPredicate e p = (assertionWithPredicate e p).bind fun a =>
      match asObject a with
      | some o => extractText o
      | none => .err "NotAssertion" := by
  unfold extractTextObjectForPredicate
  cases assertionWithPredicate e p <;> rfl

/-- `extract_optional_object_for_predicate::<String>` as a chain of `?` -/
theorem extractOptionalTextObjectForPredicate_eq (e p : Env) :
    extractOptionalTextObjectForPredicate e p = (optionalObjectForPredicate e p).bind fun
      | none => .ok none
      | some o => (extractText o).bind fun b => .ok (some b) := by
  unfold extractOptionalTextObjectForPredicate
  cases hr : optionalObjectForPredicate e p with
  | ok oo =>
    cases oo with
    | none => rfl
    | some o => dsimp only [Res.ok_bind]; cases extractText o <;> rfl
  | err _ => rfl
  | panic _ => rfl

theorem extractVendor_of_lookup {h : Hash} {o : Env} {v : Bytes}
    (hl : assertionsWithPredicate o (newKnownValue h KV_VENDOR) = [vendorAssertion h v]) :
    extractTextObjectForPredicate o (newKnownValue h KV_VENDOR) = .ok v := by
  rw [extractTextObjectForPredicate_eq, assertionWithPredicate_single hl]; rfl

theorem extractConf_of_lookup {h : Hash} {o : Env} {c : Option Bytes}
    (hl : assertionsWithPredicate o (newKnownValue h KV_CONFORMS_TO) = confList h c) :
    extractOptionalTextObjectForPredicate o (newKnownValue h KV_CONFORMS_TO) = .ok c := by
  rw [extractOptionalTextObjectForPredicate_eq]
  cases c with
  | none => rw [oofp_nil hl]; rfl
  | some c => rw [oofp_single hl rfl]; rfl

theorem attachmentPayload_of (h : Hash) (payload : Env) (v : Bytes) (c : Option Bytes) :
    attachmentPayload (attachmentOf h payload v c) = .ok payload := rfl

theorem attachmentVendor_of {h : Hash} {v : Bytes} {c : Option Bytes} (hg : AttGood h v c) (payload : Env) :
    attachmentVendor h (attachmentOf h payload v c) = .ok v :=
  extractVendor_of_lookup (vendor_lookup hg payload)

theorem attachmentConformsTo_of {h : Hash} {v : Bytes} {c : Option Bytes} (hg : AttGood h v c)
    (payload : Env) : attachmentConformsTo h (attachmentOf h payload v c) = .ok c :=
  extractConf_of_lookup (conformsTo_lookup hg payload)

/-- `validate_attachment` on an assertion: the three reads, then the comparison of the digest with
that of the attachment rebuilt from what was read -/
theorem validateAttachment_assertion (h : Hash) (p o : Env) (d : Digest) :
    validateAttachment h (.assertion p o d) =
      (unwrap o).bind fun payload =>
      (extractTextObjectForPredicate o (newKnownValue h KV_VENDOR)).bind fun vendor =>
      (extractOptionalTextObjectForPredicate o (newKnownValue h KV_CONFORMS_TO)).bind fun conf =>
        if (attachmentOf h payload vendor conf).digest == d then .ok () else .err "InvalidAttachment" := by
  simp [validateAttachment, attachmentPayload, attachmentVendor, attachmentConformsTo,
    newAttachment_eq, Res.bind, Env.digest]

theorem validateAttachment_of {h : Hash} {v : Bytes} {c : Option Bytes} (hg : AttGood h v c)
    (payload : Env) : validateAttachment h (attachmentOf h payload v c) = .ok () := by
  rw [attachmentOf, newAssertion, validateAttachment_assertion,
    show unwrap (attachmentObject h payload v c) = .ok payload from rfl,
    extractVendor_of_lookup (vendor_lookup hg payload), extractConf_of_lookup (conformsTo_lookup hg payload)]
  exact if_pos (beq_self_eq_true _)

theorem attachmentObjAssertions_some (h : Hash) (v c : Bytes)
    (hd : (vendorAssertion h v).digest ≠ (conformsToAssertion h c).digest) :
    attachmentObjAssertions h v (some c) =
      if (vendorAssertion h v).digest.val ≤ (conformsToAssertion h c).digest.val
      then [vendorAssertion h v, conformsToAssertion h c]
      else [conformsToAssertion h c, vendorAssertion h v] := by
  rw [attachmentObjAssertions, normAdd_fresh (List.forall_mem_singleton.2 hd)]
  exact sortByDigest_pair _ _

theorem extractText_ne_panic : (e : Env) → NoPanic (extractText e)
  | .node s _ _ => by rw [extractText]; exact extractText_ne_panic s
  | .leaf c _ => by intro x; cases c <;> simp [extractText]
  | .wrapped .. => Res.err_ne_panic _
  | .assertion .. => Res.err_ne_panic _
  | .elided .. => Res.err_ne_panic _
  | .knownValue .. => Res.err_ne_panic _
  | .encrypted .. => Res.err_ne_panic _
  | .compressed .. => Res.err_ne_panic _

theorem extractTextObjectForPredicate_ne_panic (e p : Env) :
    NoPanic (extractTextObjectForPredicate e p) := by
  rw [extractTextObjectForPredicate_eq]
  refine Res.bind_ne_panic (assertionWithPredicate_ne_panic e p) fun a _ => ?_
  split
  · exact extractText_ne_panic _
  · exact Res.err_ne_panic _

theorem extractOptionalTextObjectForPredicate_ne_panic (e p : Env) :
    NoPanic (extractOptionalTextObjectForPredicate e p) := by
  rw [extractOptionalTextObjectForPredicate_eq]
  refine Res.bind_ne_panic (optionalObjectForPredicate_ne_panic e p) fun oo _ => ?_
  cases oo with
  | none => exact Res.ok_ne_panic _
  | some o => exact Res.bind_ne_panic (extractText_ne_panic o) fun _ _ => Res.ok_ne_panic _

theorem validateAttachment_ne_panic (h : Hash) (a : Env) : NoPanic (validateAttachment h a) := by
  cases a with
  | assertion p o d =>
    rw [validateAttachment_assertion]
    refine Res.bind_ne_panic (unwrap_ne_panic o) fun _ _ => ?_
    refine Res.bind_ne_panic (extractTextObjectForPredicate_ne_panic _ _) fun _ _ => ?_
    refine Res.bind_ne_panic (extractOptionalTextObjectForPredicate_ne_panic _ _) fun _ _ => ?_
    intro x
    split <;> nofun
  | _ => exact Res.err_ne_panic _

/-- the loop `for assertion in &assertions { validate_attachment(assertion)?; }` of
`attachments_with_vendor_and_conforms_to` -/
def validateAll (h : Hash) (as : List Env) : Res Unit :=
  as.foldl (fun acc a => acc.bind fun _ => validateAttachment h a) (.ok ())

theorem validateAll_nil (h : Hash) : validateAll h [] = .ok () := rfl

theorem validateAll_cons (h : Hash) (a : Env) (as : List Env) :
    validateAll h (a :: as) = (validateAttachment h a).bind fun _ => validateAll h as :=
  Res.foldl_bind_cons (fun (_ : Unit) a => validateAttachment h a) a as ()

theorem validateAll_ok_iff (h : Hash) (as : List Env) :
    validateAll h as = .ok () ↔ ∀ a ∈ as, validateAttachment h a = .ok () := by
  induction as with
  | nil => simp [validateAll_nil]
  | cons a as ih =>
    rw [validateAll_cons, Res.bind_eq_ok, List.forall_mem_cons, ← ih]
    exact ⟨fun ⟨_, ha, hl⟩ => ⟨ha, hl⟩, fun ⟨ha, hl⟩ => ⟨(), ha, hl⟩⟩

theorem validateAll_first_err (h : Hash) {l1 l2 : List Env} {a : Env} {x : String}
    (h1 : ∀ b ∈ l1, validateAttachment h b = .ok ()) (ha : validateAttachment h a = .err x) :
    validateAll h (l1 ++ a :: l2) = .err x := by
  induction l1 with
  | nil => simp [validateAll_cons, ha, Res.bind]
  | cons b l1 ih =>
    rw [List.cons_append, validateAll_cons, h1 b (by simp)]
    exact ih (fun c hc => h1 c (by simp [hc]))

theorem validateAll_ne_panic (h : Hash) (as : List Env) : NoPanic (validateAll h as) :=
  Res.foldl_bind_ne_panic (fun (_ : Unit) a => validateAttachment h a)
    (fun _ a => validateAttachment_ne_panic h a) as _ (Res.ok_ne_panic ())

theorem attachmentsWith_eq (h : Hash) (e : Env) (vendor conf : Option Bytes) :
    attachmentsWith h e vendor conf =
      (validateAll h (assertionsWithPredicate e (newKnownValue h KV_ATTACHMENT))).bind fun _ =>
        .ok ((assertionsWithPredicate e (newKnownValue h KV_ATTACHMENT)).filter
          (attachmentMatches h vendor conf)) := rfl

theorem attachmentsWith_ne_panic (h : Hash) (e : Env) (vendor conf : Option Bytes) :
    NoPanic (attachmentsWith h e vendor conf) :=
  attachmentsWith_eq h e vendor conf ▸
    Res.bind_ne_panic (validateAll_ne_panic h _) fun _ _ => Res.ok_ne_panic _

theorem attachmentsWith_ok_iff (h : Hash) (e : Env) (vendor conf : Option Bytes) (l : List Env) :
    attachmentsWith h e vendor conf = .ok l ↔
      (∀ a ∈ assertionsWithPredicate e (newKnownValue h KV_ATTACHMENT), validateAttachment h a = .ok ()) ∧
      l = (assertionsWithPredicate e (newKnownValue h KV_ATTACHMENT)).filter
        (attachmentMatches h vendor conf) := by
  rw [attachmentsWith_eq, Res.bind_eq_ok, ← validateAll_ok_iff]
  exact ⟨fun ⟨_, hv, hl⟩ => ⟨hv, (Res.ok.inj hl).symm⟩, fun ⟨hv, hl⟩ => ⟨(), hv, hl ▸ rfl⟩⟩

def addAttachments (h : Hash) (e : Env) (L : List (Env × Bytes × Option Bytes)) : Res Env :=
  L.foldl (fun acc t => acc.bind fun x => addAttachment h x t.1 t.2.1 t.2.2) (.ok e)

def attOfT (h : Hash) (t : Env × Bytes × Option Bytes) : Env := attachmentOf h t.1 t.2.1 t.2.2

theorem addAttachment_eq (h : Hash) (e payload : Env) (v : Bytes) (c : Option Bytes) :
    addAttachment h e payload v c = addAssertionEnvelope h e (attachmentOf h payload v c) := by
  simp [addAttachment, newAttachment_eq, Res.bind, add_eq h e (attachmentOf_slotOk h payload v c)]

theorem addAttachments_eq (h : Hash) (e : Env) (L : List (Env × Bytes × Option Bytes)) :
    addAttachments h e L = addAll h e (L.map (attOfT h)) := by
  simp only [addAttachments, addAll, List.foldl_map, addAttachment_eq, attOfT]

theorem addAttachments_total (h : Hash) {e : Env} (hi : Inv h e) (L : List (Env × Bytes × Option Bytes)) :
    ∃ r, addAttachments h e L = .ok r :=
  addAttachments_eq h e L ▸ addAll_isOk h _ e (List.forall_mem_map.2 fun _ _ => rfl)

/-- the attachment assertions of the receiver after the adds: those it had and the added ones,
under `hcross` and `hinj` (head of Props/C19.lean) -/
theorem awp_addAttachments {h : Hash} {e r : Env} {L : List (Env × Bytes × Option Bytes)}
    (hcross : ∀ x ∈ e.assertions, ∀ t ∈ L, x.digest = (attOfT h t).digest → x = attOfT h t)
    (hinj : DigInj (L.map (attOfT h))) (hr : addAttachments h e L = .ok r) (a : Env) :
    a ∈ assertionsWithPredicate r (newKnownValue h KV_ATTACHMENT) ↔
      a ∈ assertionsWithPredicate e (newKnownValue h KV_ATTACHMENT) ∨ ∃ t ∈ L, a = attOfT h t := by
  rw [addAttachments_eq] at hr
  have hcross' : ∀ y ∈ e.assertions, ∀ x ∈ L.map (attOfT h), y.digest = x.digest → y = x :=
    fun y hy => List.forall_mem_map.2 (hcross y hy)
  rw [awp_eq_filter, awp_eq_filter, List.mem_filter, List.mem_filter, (addAll_ok _ hr).2.2,
    mem_foldl_normAdd' hinj hcross' a, List.mem_map, or_and_right]
  refine or_congr Iff.rfl ⟨fun ⟨⟨t, ht, he⟩, _⟩ => ⟨t, ht, he.symm⟩, ?_⟩
  rintro ⟨t, ht, rfl⟩
  exact ⟨⟨t, ht, rfl⟩, beq_self_eq_true _⟩

theorem types_eq (h : Hash) (e : Env) :
    types h e = .ok ((assertionsWithPredicate e (newKnownValue h KV_IS_A)).filterMap
      fun a => asObject a.subject) :=
  objectsForPredicate_eq e _

def isAAssertion (h : Hash) (t : Env) : Env := newAssertion h (newKnownValue h KV_IS_A) t

theorem addType_eq (h : Hash) (e t : Env) :
    addType h e t = addAssertionEnvelope h e (isAAssertion h t) :=
  addAssertionUnwrap_eq h e _ _

/-- what `has_type_envelope(t)` answers: is `t` (by digest) among the objects of the 'isA'
assertions -/
def hasType (h : Hash) (e t : Env) : Bool :=
  ((assertionsWithPredicate e (newKnownValue h KV_IS_A)).filterMap fun a => asObject a.subject).any
    fun x => x.digest == t.digest

theorem hasTypeEnvelope_eq (h : Hash) (e t : Env) : hasTypeEnvelope h e t = .ok (hasType h e t) := by
  simp only [hasTypeEnvelope, types_eq, hasType]

theorem hasType_iff {h : Hash} {e t : Env} :
    hasType h e t = true ↔ ∃ a ∈ e.assertions, ∃ q o d, a.subject = .assertion q o d ∧
      q.digest = (newKnownValue h KV_IS_A).digest ∧ o.digest = t.digest := by
  rw [hasType, List.any_eq_true]
  constructor
  · rintro ⟨x, hx, hd⟩
    obtain ⟨a, ha, q, d, hs, hq⟩ := mem_objects.1 hx
    exact ⟨a, ha, q, x, d, hs, hq, beq_iff_eq.1 hd⟩
  · rintro ⟨a, ha, q, o, d, hs, hq, hd⟩
    exact ⟨o, mem_objects.2 ⟨a, ha, q, d, hs, hq⟩, beq_iff_eq.2 hd⟩

theorem getType_ne_panic (h : Hash) (e : Env) : NoPanic (getType h e) := by
  rw [getType, types_eq]
  generalize List.filterMap _ _ = ts
  rcases ts with _ | ⟨_, _ | _⟩ <;> nofun

end ExtL
end EnvVerif
