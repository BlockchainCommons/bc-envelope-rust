/-
  Lemmas/UrLemmas.lean — the UR text form round-trips: bytewords (minimal style), checksum,
  `ur:<type>/...` framing.  Facts about the *concrete* tables and functions of `Model/Ur.lean` (the
  dependency side, modelled exactly), for all byte strings.
-/
import EnvVerif.Model.Ur
import EnvVerif.Lemmas.Bytes

namespace EnvVerif
namespace Ur

/-- one pass over a table of pairs that stops at a pair met before; `seen` holds the pairs met so
far, as a bit mask over `p * 256 + q` -/
def pairsFresh : List (Nat × Nat) → Nat → Bool
  | [], _ => true
  | (p, q) :: r, seen => !seen.testBit (p * 256 + q) && pairsFresh r (seen ||| 2 ^ (p * 256 + q))

theorem not_seen_of_fresh : ∀ (l : List (Nat × Nat)) (seen : Nat), pairsFresh l seen = true →
    ∀ pq ∈ l, seen.testBit (pq.1 * 256 + pq.2) = false
  | [], _, _, _, h => nomatch h
  | (p, q) :: r, seen, hf, pq, h => by
    rw [pairsFresh, Bool.and_eq_true, Bool.not_eq_true'] at hf
    rcases List.mem_cons.mp h with rfl | h
    · exact hf.1
    · have := not_seen_of_fresh r _ hf.2 pq h
      rw [Nat.testBit_or, Bool.or_eq_false_iff] at this
      exact this.1

theorem findPair_of_fresh : ∀ (l : List (Nat × Nat)) (seen : Nat), pairsFresh l seen = true →
    ∀ (j : Nat) (hj : j < l.length) (i : Nat), findPair l l[j].1 l[j].2 i = some (i + j)
  | (p, q) :: r, seen, hf, 0, _, i => by simp [findPair]
  | (p, q) :: r, seen, hf, j + 1, hj, i => by
    rw [pairsFresh, Bool.and_eq_true] at hf
    have hj' : j < r.length := Nat.lt_of_succ_lt_succ hj
    have hne : ¬ (p = r[j].1 ∧ q = r[j].2) := by
      rintro ⟨rfl, rfl⟩
      have := not_seen_of_fresh r _ hf.2 _ (List.getElem_mem hj')
      simp [Nat.testBit_or, Nat.testBit_two_pow_self] at this
    rw [List.getElem_cons_succ, findPair, if_neg (by simpa using hne),
      findPair_of_fresh r _ hf.2 j _ (i + 1)]
    congr 1; omega

/-- the 256 two-letter words are pairwise distinct: one pass over the table (looking every entry
up with `findPair` would go through the table 256 times) -/
theorem pairsFresh_minimals : pairsFresh minimals 0 = true := by decide +kernel

theorem byteOfPair_minimalOf (b : UInt8) : byteOfPair (minimalOf b).1 (minimalOf b).2 = some b := by
  rw [byteOfPair, minimalOf, findPair_of_fresh _ _ pairsFresh_minimals]
  simp

theorem minimalOf_lower (b : UInt8) :
    (97 ≤ (minimalOf b).1 ∧ (minimalOf b).1 ≤ 122) ∧ (97 ≤ (minimalOf b).2 ∧ (minimalOf b).2 ≤ 122) := by
  have hall : minimals.all (fun pq => 97 ≤ pq.1 && pq.1 ≤ 122 && 97 ≤ pq.2 && pq.2 ≤ 122) = true := by
    decide +kernel
  simpa [and_assoc] using List.all_eq_true.mp hall (minimalOf b) (List.getElem_mem _)

theorem findPair_sound (l : List (Nat × Nat)) (x y i j : Nat) : findPair l x y i = some j →
    ∃ k, j = i + k ∧ l[k]? = some (x, y) := by
  fun_induction findPair l x y i with
  | case1 => nofun
  | case2 p q rest x y i hc =>
    rintro ⟨⟩
    rw [Bool.and_eq_true, beq_iff_eq, beq_iff_eq] at hc
    exact ⟨0, rfl, by rw [hc.1, hc.2]; rfl⟩
  | case3 p q rest x y i _ ih =>
    intro h
    obtain ⟨k, rfl, hk⟩ := ih h
    exact ⟨k + 1, by omega, hk⟩

theorem byteOfPair_eq_some {x y : Nat} {b : UInt8} :
    byteOfPair x y = some b ↔ minimalOf b = (x, y) := by
  constructor
  · intro h
    obtain ⟨j, hj, rfl⟩ := Option.map_eq_some_iff.mp h
    obtain ⟨k, rfl, hk⟩ := findPair_sound minimals x y 0 j hj
    obtain ⟨hl, he⟩ := List.getElem?_eq_some_iff.mp hk
    rw [minimals_length] at hl
    simp only [minimalOf, Nat.zero_add, UInt8.toNat_ofNat', Nat.mod_eq_of_lt hl, he]
  · intro h
    have := byteOfPair_minimalOf b
    rwa [h] at this

theorem decodeLetters_encodeLetters : ∀ bs : Bytes, decodeLetters (encodeLetters bs) = some bs
  | [] => rfl
  | b :: rest => by
    simp only [encodeLetters, decodeLetters, byteOfPair_minimalOf, decodeLetters_encodeLetters rest]

theorem decodeLetters_eq_some {t : Text} {bs : Bytes} :
    decodeLetters t = some bs ↔ t = encodeLetters bs := by
  refine ⟨?_, fun h => h ▸ decodeLetters_encodeLetters bs⟩
  fun_induction decodeLetters t generalizing bs with
  | case1 => rintro ⟨⟩; rfl
  | case2 => nofun
  | case3 x y rest b bs' hr hb ih =>
    rintro ⟨⟩
    rw [encodeLetters, byteOfPair_eq_some.mp hb, ← ih hr]
  | case4 => nofun

theorem stripChecksum_eq_some {data p : Bytes} :
    stripChecksum data = some p ↔ data = p ++ beBytes 4 (crc32 p) := by
  constructor
  · fun_cases stripChecksum data
    case case2 _ payload checksum hc =>
      intro h
      rw [← Option.some.inj h, beq_iff_eq.mp hc, List.take_append_drop]
    all_goals nofun
  · rintro rfl
    have hl : (beBytes 4 (crc32 p)).length = 4 := beBytes_length 4 _
    rw [stripChecksum, List.length_append, hl, if_neg (by omega), Nat.add_sub_cancel,
      List.take_left' rfl, List.drop_left' rfl, if_pos (beq_self_eq_true _)]

theorem bytewordsDecode_eq_some {t : Text} {p : Bytes} :
    bytewordsDecode t = some p ↔ t = bytewordsMinimal p := by
  unfold bytewordsDecode bytewordsMinimal
  constructor
  · intro h
    split at h
    · next data hd => rw [decodeLetters_eq_some.mp hd, ← stripChecksum_eq_some.mp h]
    · cases h
  · rintro rfl
    rw [decodeLetters_encodeLetters]
    exact stripChecksum_eq_some.mpr rfl

theorem stripPrefix_eq_some : ∀ {p s r : Text}, stripPrefix p s = some r ↔ s = p ++ r
  | [], s, r => by cases s <;> simp [stripPrefix, eq_comm]
  | _ :: _, [], _ => by simp [stripPrefix]
  | a :: as, c :: cs, r => by
    rw [stripPrefix]
    split
    · next h => simp [stripPrefix_eq_some (p := as), beq_iff_eq.mp h]
    · next h => simpa using fun e => absurd e.symm (by simpa using h)

theorem splitOnce_eq_some {s a b : Text} :
    splitOnce s = some (a, b) ↔ s = a ++ SLASH :: b ∧ SLASH ∉ a := by
  constructor
  · fun_induction splitOnce s generalizing a with
    | case1 => nofun
    | case2 c rest hc =>
      rintro ⟨⟩
      exact ⟨by rw [beq_iff_eq.mp hc]; rfl, List.not_mem_nil⟩
    | case3 c rest hc a' b' hr ih =>
      rintro ⟨⟩
      obtain ⟨e, hn⟩ := ih hr
      exact ⟨by rw [e]; rfl, by simpa [hn] using fun e => hc (by simp [e])⟩
    | case4 => nofun
  · rintro ⟨rfl, hn⟩
    induction a with
    | nil => simp [splitOnce]
    | cons c cs ih =>
      rw [List.mem_cons, not_or] at hn
      simp [splitOnce, Ne.symm hn.1, ih hn.2]

theorem all_append {P : Nat → Bool} (a b : Text) : (a ++ b).all P = (a.all P && b.all P) := List.all_append

theorem typeChar_spec {c : Nat} (h : isTypeChar c = true) : (c < 128 ∧ lowerAscii c = c) ∧ c ≠ SLASH := by
  simp only [isTypeChar, Bool.or_eq_true, Bool.and_eq_true, decide_eq_true_eq, beq_iff_eq] at h
  have : ¬ (65 ≤ c ∧ c ≤ 90) := by omega
  simp only [lowerAscii, SLASH, Bool.and_eq_true, decide_eq_true_eq, this, if_false, ne_eq, and_true]
  omega

theorem typeChar_of_mem_encodeLetters : ∀ {bs : Bytes} {c : Nat}, c ∈ encodeLetters bs →
    isTypeChar c = true
  | b :: rest, c, h => by
    have hb := minimalOf_lower b
    rw [encodeLetters, List.mem_cons, List.mem_cons] at h
    rcases h with rfl | rfl | h
    · simp [isTypeChar, hb.1]
    · simp [isTypeChar, hb.2]
    · exact typeChar_of_mem_encodeLetters h

/-- `from_ur_string` reads exactly the ASCII strings whose lower-case form is what `UR::string` writes
for a well-formed type -/
theorem urParse_eq_some {s ty : Text} {data : Bytes} :
    urParse s = some (ty, data) ↔ s.any (fun c => c ≥ 128) = false ∧ ty.all isTypeChar = true ∧
      s.map lowerAscii = urString ty data := by
  constructor
  · fun_cases urParse s
    case case6 hany _ rest hp ty' body hs hty _ data' hb =>
      rintro ⟨⟩
      refine ⟨by simpa using hany, by simpa using hty, (stripPrefix_eq_some.mp hp).trans ?_⟩
      rw [(splitOnce_eq_some.mp hs).1, bytewordsDecode_eq_some.mp hb, urString]
      simp
    all_goals nofun
  · rintro ⟨hany, hty, hmap⟩
    have hslash : SLASH ∉ ty := fun hm =>
      (typeChar_spec (List.all_eq_true.mp hty _ hm)).2 rfl
    have hbody : (bytewordsMinimal data).contains SLASH = false :=
      Bool.eq_false_iff.mpr fun hc =>
        (typeChar_spec (typeChar_of_mem_encodeLetters (List.contains_iff_mem.mp hc))).2 rfl
    have hp : stripPrefix urPrefix (urPrefix ++ ty ++ [SLASH] ++ bytewordsMinimal data) =
        some (ty ++ SLASH :: bytewordsMinimal data) := stripPrefix_eq_some.mpr (by simp)
    simp only [urParse, urString, hany, hmap, hp, splitOnce_eq_some.mpr ⟨rfl, hslash⟩, hty, hbody,
      bytewordsDecode_eq_some.mpr rfl, Bool.false_eq_true, Bool.not_true, if_false]

/-- **UR round trip (dependency level)** -/
theorem urParse_urString (ty : Text) (data : Bytes) (hty : ty.all isTypeChar = true) :
    urParse (urString ty data) = some (ty, data) := by
  have hc : ∀ c ∈ urString ty data, c < 128 ∧ lowerAscii c = c := by
    intro c hc
    simp only [urString, List.mem_append, List.mem_singleton] at hc
    rcases hc with ((hc | hc) | rfl) | hc
    · revert c; decide
    · exact (typeChar_spec (List.all_eq_true.mp hty c hc)).1
    · decide
    · exact (typeChar_spec (typeChar_of_mem_encodeLetters hc)).1
  exact urParse_eq_some.mpr ⟨List.any_eq_false.mpr fun c h => by simpa using (hc c h).1, hty,
    (List.map_congr_left fun c h => (hc c h).2).trans (List.map_id' _)⟩

theorem lower_upper (c : Nat) : lowerAscii (upperAscii c) = lowerAscii c := by
  rw [upperAscii]
  split
  · next h =>
    rw [Bool.and_eq_true, decide_eq_true_eq, decide_eq_true_eq] at h
    rw [lowerAscii, lowerAscii, if_pos (by simp; omega), if_neg (by simp; omega)]
    omega
  · rfl

theorem upper_ge (c : Nat) : decide (upperAscii c ≥ 128) = decide (c ≥ 128) := by
  rw [upperAscii]
  split
  · next h =>
    rw [Bool.and_eq_true, decide_eq_true_eq, decide_eq_true_eq] at h
    rw [decide_eq_false (by omega), decide_eq_false (by omega)]
  · rfl

/-- the QR form: `from_ur_string` sees its input only through "is there a non-ASCII character" and the
lower-cased text -/
theorem urParse_upper (s : Text) : urParse (s.map upperAscii) = urParse s :=
  Option.ext fun ⟨ty, data⟩ => by
    rw [urParse_eq_some, urParse_eq_some, List.any_map, List.map_map]
    simp only [Function.comp_def, upper_ge, lower_upper]

end Ur
end EnvVerif
